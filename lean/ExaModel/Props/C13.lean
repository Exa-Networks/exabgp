import ExaModel.Lemmas.JsonText
/-!
# C13 — API events stay well-formed whatever a peer sends

Statement (properties.jsonl): every event ExaBGP writes to an API process — for any message a
peer can cause to be decoded, in JSON or text encoding, API version 4 or 6 — can always be
rendered and written to the pipe, and is exactly one well-formed record: a JSON event is a single
line that parses, has no duplicate key inside any object and carries the documented envelope; a
text event has the expected number of lines and no control character or line break taken from
peer data.  Peer-chosen strings appear only as escaped values and cannot add, remove or forge a
field or an event.

Model: `Exa.Json` (M-Json).  What is proved here, for ALL inputs:

* the record checker `parseLine` (strict RFC 8259, one line, duplicate keys rejected at any depth)
  is sound for "no duplicate key" and "no control character", and complete on everything a
  printer that escapes through `quote` can write (`parse_render`), so it rejects nothing it should
  accept;
* the escaper the JSON encoder uses (`json.dumps`, modelled by `quote`) is safe for every Python
  string: pure printable ASCII out, the string token ends exactly at the closing quote that was
  written whatever follows, and reads back as exactly the string — hence hostile leaves cannot
  change the key skeleton of a record (`hostile_leaves_keep_skeleton`);
* the escaper of the text encoder (`text.oneline`, modelled by `oneline` over the generated
  `str.isprintable` table) never lets a control character or a line break through, and is pure
  ASCII on ASCII input.

What is NOT true of the code and is therefore stated as a witness (`finding`):

* `oneline_safe` — "every code point of `oneline s` is one `Processes.write` can encode
  (`bytes(line, 'ascii')`)" — is false: `oneline_safe_fails` (F29, `é` passes through).  The full
  statement is proved of the repaired function (`onelineFixed_safe`).
* `oneline_injective` is false: a real line feed and the two characters backslash-n collide
  (`oneline_not_injective`; backslash is printable, so it is not escaped).  Injectivity is proved
  where the input has no backslash (`oneline_injective_partial`).  No field or event can be forged
  by this collision, so it is recorded, not raised.

Strength: **partial** — checker and escapers are proved for all inputs; that each of the ~140
hand-written `json()` producers of /repo routes every peer-chosen string through `json.dumps`, and
never repeats a key, is not a theorem: it is checked by running this very parser on the
implementation's output (harness/props/C13.py).
-/
namespace Exa.Props.C13
open Exa Exa.Json

/-- **Completeness.** Any JSON value without duplicate keys, whose strings are Python strings
    and whose numbers are number literals, written in ExaBGP's spacing with every string through
    `json.dumps`, is accepted by the strict parser and read back as exactly that value. -/
theorem parse_render (j : J) (hw : j.wf = true) (hn : j.nodup = true) : parse (render j) = .ok j := by
  refine parse_eq_ok_iff.2 ⟨[], ?_, rfl⟩
  have h := pValue_render j hw hn ((render j).length + 1) [] (size_le_render.1 j) restOk_nil
  rwa [← skipWs_render j hw [], List.append_nil] at h

/-- **single_line.** Such a rendering consists of printable ASCII only: no line feed, no carriage
    return, no control character — and `bytes(line, 'ascii')` in `Processes.write` cannot fail. -/
theorem single_line (j : J) (hw : j.wf = true) :
    (∀ x ∈ render j, 0x20 ≤ x ∧ x < 0x7F) ∧ 0x0A ∉ render j ∧ 0x0D ∉ render j ∧ asciiEncodable (render j) = true := by
  have h := render_ascii j hw
  have nl := no_linebreak fun x hx => (h x hx).1
  exact ⟨h, nl.1, nl.2, asciiEncodable_of_ascii h⟩

/-- The pipe record checker accepts it as well (one line, one value, nothing else). -/
theorem parseLine_render (j : J) (hw : j.wf = true) (hn : j.nodup = true) : parseLine (render j) = .ok j := by
  have h : firstCtl (render j) = none := (firstCtl_none_iff _).2 (fun x hx => (render_ascii j hw x hx).1)
  simp only [parseLine, h, parse_render j hw hn]

/-- **Soundness of the duplicate-key check (`parse_nodup`).** Whatever the parser accepts has no
    object, at any depth, with the same key twice. -/
theorem parse_nodup (s : List Nat) (j : J) (h : parse s = .ok j) : j.nodup = true := by
  obtain ⟨r, hp, _⟩ := parse_eq_ok_iff.1 h
  exact (sound_all _).1 _ _ _ hp

/-- The same for the pipe record checker, which moreover accepts no record containing a control
    character (so none containing a line break): an accepted record is a single line. -/
theorem parseLine_sound (s : List Nat) (j : J) (h : parseLine s = .ok j) :
    j.nodup = true ∧ (∀ x ∈ s, 0x20 ≤ x) ∧ 0x0A ∉ s ∧ 0x0D ∉ s := by
  revert h
  fun_cases parseLine s <;> intro h
  · cases h
  · have hall := (firstCtl_none_iff s).1 ‹_›
    exact ⟨parse_nodup s j h, hall, no_linebreak hall⟩

/-- **escape_safe.** For every Python string `s` (any code points below 0x110000, lone
    surrogates included; the only exclusion is a high surrogate directly followed by a low one,
    which *is* the astral code point — see `escape_pair_collision`): `json.dumps(s)` is printable
    ASCII only — in particular no code point below 0x20, and every `"` and `\` of `s` is escaped,
    which is what the second conjunct says: read as a string token, the output ends exactly at the
    closing quote that was written, **whatever follows it**, and holds exactly `s` — and as a JSON
    text it parses back to exactly `.str s`. -/
theorem escape_safe (s : Str) (hs : wfStr s = true) :
    (∀ x ∈ quote s, 0x20 ≤ x ∧ x < 0x7F) ∧
    (∀ rest, lexStr (escBody s ++ 0x22 :: rest) = some (s, rest)) ∧
    parse (quote s) = .ok (.str s) := by
  refine ⟨quote_ascii s, fun rest => lexStr_escBody s hs rest, ?_⟩
  have := parse_render (.str s) (by simpa [J.wf] using hs) (by rfl)
  simpa [render] using this

/-- No two Python strings have the same escaped form: a hostile value cannot be made to look like
    another value. -/
theorem escape_injective (s t : Str) (hs : wfStr s = true) (ht : wfStr t = true) (h : quote s = quote t) : s = t := by
  have a := (escape_safe s hs).2.2
  have b := (escape_safe t ht).2.2
  rw [h, b] at a
  cases a; rfl

/-- The excluded case, as Python behaves: the two lone surrogates U+D83D U+DE00 are written
    `"\ud83d\ude00"`, which every JSON reader (Python's included) reads as the single code point
    U+1F600.  Not reachable from peer data (`bytes.decode('utf-8', 'replace')` yields no
    surrogates). -/
theorem escape_pair_collision : parse (quote [0xD83D, 0xDE00]) = .ok (.str [0x1F600]) := by decide

/-- **Hostile leaves cannot add, remove or forge a field**, in this sense: two records that differ only
    in the content of their string leaves and numbers (same keys, same structure: equal skeletons) are
    both accepted and each is read back as the value that was written (`parseLine_render`), hence
    with the skeletons they had — whatever the strings contain (quotes, backslashes, line breaks,
    `}{`, JSON fragments, any code point). -/
theorem hostile_leaves_keep_skeleton (j₁ j₂ : J) (hw₁ : j₁.wf = true) (hn₁ : j₁.nodup = true)
    (hw₂ : j₂.wf = true) (hn₂ : j₂.nodup = true) (h : j₁.skel = j₂.skel) :
    ∃ r₁ r₂, parseLine (render j₁) = .ok r₁ ∧ parseLine (render j₂) = .ok r₂ ∧ r₁.skel = r₂.skel :=
  ⟨j₁, j₂, parseLine_render j₁ hw₁ hn₁, parseLine_render j₂ hw₂ hn₂, h⟩

/-- Obligations on the generated `str.isprintable` table: all of
    U+0000..U+001F, all of U+007F..U+00A0 and U+2028/U+2029 are non-printable; nothing in
    0x20..0x7E is. -/
theorem printable_table_controls :
    covered 0 0x1F = true ∧ covered 0x7F 0xA0 = true ∧ covered 0x2028 0x2029 = true ∧ asciiFree = true :=
  ⟨table_c0, table_c1, table_seps, table_ascii⟩

/-- **oneline_safe, the part that holds.** No code point of `oneline s` is a control character
    (C0, DEL, C1), NBSP, or a Unicode line / paragraph separator, for every `s`: a text record
    cannot be broken in two by peer data. -/
theorem oneline_no_control (s : Str) (x : Nat) (hx : x ∈ oneline s) :
    0x20 ≤ x ∧ x ≠ 0x7F ∧ ¬ (0x80 ≤ x ∧ x ≤ 0xA0) ∧ x ≠ 0x2028 ∧ x ≠ 0x2029 := by
  rcases escWith_mem isPrintable s x hx with ⟨hp, _⟩ | h
  · by_cases hlow : x < 0xA1
    · have := printable_low x hlow hp; omega
    · refine ⟨by omega, by omega, by omega, fun e => ?_, fun e => ?_⟩
      · rw [printable_seps x (Or.inl e)] at hp; cases hp
      · rw [printable_seps x (Or.inr e)] at hp; cases hp
  · omega

/-- On ASCII input `oneline` writes printable ASCII only. -/
theorem oneline_ascii_of_ascii (s : Str) (hs : ∀ c ∈ s, c < 0x80) : ∀ x ∈ oneline s, 0x20 ≤ x ∧ x < 0x7F :=
  escWith_ascii fun c hc hp => printable_low c (by have := hs c hc; omega) hp

/-- **oneline_safe is false of the code (F29).** The statement negated: every code point of
    `oneline s` is below 0x80 (`asciiEncodable`: what `bytes(line, 'ascii')` can encode).  Witness: `é` (U+00E9) is printable,
    passes through, and `Processes.write` raises `UnicodeEncodeError`. -/
theorem oneline_safe_fails : ¬ (∀ s : Str, asciiEncodable (oneline s) = true) := by
  intro h
  have := h [0xE9]
  revert this
  decide +kernel

/-- **oneline_safe, full, for the proposed repair** (`onelineFixed`: pass through only printable
    ASCII): every code point written is printable ASCII, for every input. -/
theorem onelineFixed_safe (s : Str) : (∀ x ∈ onelineFixed s, 0x20 ≤ x ∧ x < 0x7F) ∧ asciiEncodable (onelineFixed s) = true := by
  have h : Ascii (onelineFixed s) := by
    rw [onelineFixed_eq]; exact escWith_ascii fun c _ hp => of_decide_eq_true hp
  exact ⟨h, asciiEncodable_of_ascii h⟩

/-- **oneline_injective is false of the code.** Full statement: `oneline s = oneline t → s = t`.
    Witness: a line feed and the two characters `\` `n`. -/
theorem oneline_not_injective : oneline [0x0A] = oneline [0x5C, 0x6E] ∧ ([0x0A] : Str) ≠ [0x5C, 0x6E] := by
  rw [oneline_eq, oneline_eq]; decide +kernel

/-- **oneline_injective_partial.** Where neither string contains a backslash, equal output means
    equal input (the escapes `\t \n \r \xHH \uHHHH \UHHHHHHHH` are self-delimiting); it holds of
    the code's `oneline` and of the repaired one. -/
theorem oneline_injective_partial (s t : Str) (hs : ∀ c ∈ s, c ≠ 0x5C ∧ c < 0x110000)
    (ht : ∀ c ∈ t, c ≠ 0x5C ∧ c < 0x110000) :
    (oneline s = oneline t → s = t) ∧ (onelineFixed s = onelineFixed t → s = t) :=
  ⟨escWith_injective _ hs ht, escWith_injective _ hs ht⟩

/-- The text record check of the driver: `firstNonText l = none` iff `l` is printable ASCII only. -/
theorem textline_spec (l : Str) : firstNonText l = none ↔ ∀ x ∈ l, 0x20 ≤ x ∧ x < 0x7F := by
  fun_induction firstNonText l <;> simp [*]

/-! ## Non-vacuity: the hypotheses are satisfiable and the checker discriminates -/

/-- An event shaped like ExaBGP's with a hostile leaf (the host name holds `"},{`, a line feed,
    a backslash, `é`, an astral code point, a lone surrogate and `"type": "down"`):
    `{ "exabgp": "6.0.0", "time": 1695480000.25, "neighbor": { "address": { "local": "127.0.0.1" },
       "open": { "hostname": <hostile>, "families": [ "ipv4 unicast", true, null ] } } }` -/
def sample : J :=
  .obj (.cons [0x65, 0x78, 0x61, 0x62, 0x67, 0x70] (.str [0x36, 0x2E, 0x30, 0x2E, 0x30]) (.cons [0x74, 0x69, 0x6D, 0x65] (.num [0x31, 0x36, 0x39, 0x35, 0x34, 0x38, 0x30, 0x30, 0x30, 0x30, 0x2E, 0x32, 0x35])
    (.cons [0x6E, 0x65, 0x69, 0x67, 0x68, 0x62, 0x6F, 0x72] (.obj (.cons [0x61, 0x64, 0x64, 0x72, 0x65, 0x73, 0x73] (.obj (.cons [0x6C, 0x6F, 0x63, 0x61, 0x6C] (.str [0x31, 0x32, 0x37, 0x2E, 0x30, 0x2E, 0x30, 0x2E, 0x31]) .nil))
      (.cons [0x6F, 0x70, 0x65, 0x6E] (.obj (.cons [0x68, 0x6F, 0x73, 0x74, 0x6E, 0x61, 0x6D, 0x65] (.str ([0x22, 0x7D, 0x2C, 0x7B, 0x0A, 0x5C, 0xE9, 0x1F600, 0xDC80] ++ [0x22, 0x74, 0x79, 0x70, 0x65, 0x22, 0x3A, 0x20, 0x22, 0x64, 0x6F, 0x77, 0x6E, 0x22]))
        (.cons [0x66, 0x61, 0x6D, 0x69, 0x6C, 0x69, 0x65, 0x73] (.arr (.cons (.str [0x69, 0x70, 0x76, 0x34, 0x20, 0x75, 0x6E, 0x69, 0x63, 0x61, 0x73, 0x74]) (.cons (.bool true) (.cons .null .nil)))) .nil))) .nil))) .nil)))

example : sample.wf = true ∧ sample.nodup = true := by decide +kernel
example : parseLine (render sample) = .ok sample := parseLine_render sample (by decide +kernel) (by decide +kernel)
example : 0x0A ∉ render sample := (single_line sample (by decide +kernel)).2.1

/-- F9's shape is rejected, at depth, and the key is named: `{ "update": { "attribute": { "aggregator": "1:1.1.1.1", "aggregator": "2:2.2.2.2" } } }` -/
example : parseLine [0x7B, 0x20, 0x22, 0x75, 0x70, 0x64, 0x61, 0x74, 0x65, 0x22, 0x3A, 0x20, 0x7B, 0x20, 0x22, 0x61, 0x74, 0x74, 0x72, 0x69, 0x62, 0x75, 0x74, 0x65, 0x22, 0x3A, 0x20, 0x7B, 0x20, 0x22, 0x61, 0x67, 0x67, 0x72, 0x65, 0x67, 0x61, 0x74, 0x6F, 0x72, 0x22, 0x3A, 0x20, 0x22, 0x31, 0x3A, 0x31, 0x2E, 0x31, 0x2E, 0x31, 0x2E, 0x31, 0x22, 0x2C, 0x20, 0x22, 0x61, 0x67, 0x67, 0x72, 0x65, 0x67, 0x61, 0x74, 0x6F, 0x72, 0x22, 0x3A, 0x20, 0x22, 0x32, 0x3A, 0x32, 0x2E, 0x32, 0x2E, 0x32, 0x2E, 0x32, 0x22, 0x20, 0x7D, 0x20, 0x7D, 0x20, 0x7D]
    = .error (.dup [0x61, 0x67, 0x67, 0x72, 0x65, 0x67, 0x61, 0x74, 0x6F, 0x72] 19) := by decide +kernel
/-- the same key in two different objects is fine: `{ "a": { "x": 1 }, "b": { "x": 2 } }` -/
example : (parseLine [0x7B, 0x20, 0x22, 0x61, 0x22, 0x3A, 0x20, 0x7B, 0x20, 0x22, 0x78, 0x22, 0x3A, 0x20, 0x31, 0x20, 0x7D, 0x2C, 0x20, 0x22, 0x62, 0x22, 0x3A, 0x20, 0x7B, 0x20, 0x22, 0x78, 0x22, 0x3A, 0x20, 0x32, 0x20, 0x7D, 0x20, 0x7D]).isOk
    = true := by decide +kernel
/-- trailing garbage: `{ "a": 1 } x` -/
example : parseLine [0x7B, 0x20, 0x22, 0x61, 0x22, 0x3A, 0x20, 0x31, 0x20, 0x7D, 0x20, 0x78]
    = .error (.bad 1) := by decide +kernel
/-- a second record on the same line: `{ "a": 1 }{ "b": 2 }` -/
example : parseLine [0x7B, 0x20, 0x22, 0x61, 0x22, 0x3A, 0x20, 0x31, 0x20, 0x7D, 0x7B, 0x20, 0x22, 0x62, 0x22, 0x3A, 0x20, 0x32, 0x20, 0x7D]
    = .error (.bad 10) := by decide +kernel
/-- a raw line feed inside a string: `{ "a": "x\ny" }` -/
example : (parseLine [0x7B, 0x20, 0x22, 0x61, 0x22, 0x3A, 0x20, 0x22, 0x78, 0x0A, 0x79, 0x22, 0x20, 0x7D]).isOk
    = false := by decide +kernel
/-- a raw line feed between tokens is JSON but not one line: `{ "a": 1,\n"b": 2 }` -/
example : (parseLine [0x7B, 0x20, 0x22, 0x61, 0x22, 0x3A, 0x20, 0x31, 0x2C, 0x0A, 0x22, 0x62, 0x22, 0x3A, 0x20, 0x32, 0x20, 0x7D]).isOk
    = false := by decide +kernel
-- `{ "a": 1,\n"b": 2 }`
example : (parse [0x7B, 0x20, 0x22, 0x61, 0x22, 0x3A, 0x20, 0x31, 0x2C, 0x0A, 0x22, 0x62, 0x22, 0x3A, 0x20, 0x32, 0x20, 0x7D]).isOk
    = true := by decide +kernel
/-- a trailing comma: `[ 1, 2, ]` -/
example : (parseLine [0x5B, 0x20, 0x31, 0x2C, 0x20, 0x32, 0x2C, 0x20, 0x5D]).isOk
    = false := by decide +kernel
/-- a leading zero: `[ 01 ]` -/
example : (parseLine [0x5B, 0x20, 0x30, 0x31, 0x20, 0x5D]).isOk
    = false := by decide +kernel
/-- an unescaped quote: `{ "a": "x"y" }` -/
example : (parseLine [0x7B, 0x20, 0x22, 0x61, 0x22, 0x3A, 0x20, 0x22, 0x78, 0x22, 0x79, 0x22, 0x20, 0x7D]).isOk
    = false := by decide +kernel
/-- the hostile host name of GHSA-jcrv-p53f-v5w5 through `oneline`: still one line -/
example : oneline [0x61, 0x0A, 0x6E, 0x65, 0x69, 0x67, 0x68, 0x62, 0x6F, 0x72, 0x20, 0x31, 0x2E, 0x32, 0x2E, 0x33, 0x2E, 0x34, 0x20, 0x64, 0x6F, 0x77, 0x6E, 0x20, 0x2D, 0x20, 0x66, 0x6F, 0x72, 0x67, 0x65, 0x64]
    = [0x61, 0x5C, 0x6E, 0x6E, 0x65, 0x69, 0x67, 0x68, 0x62, 0x6F, 0x72, 0x20, 0x31, 0x2E, 0x32, 0x2E, 0x33, 0x2E, 0x34, 0x20, 0x64, 0x6F, 0x77, 0x6E, 0x20, 0x2D, 0x20, 0x66, 0x6F, 0x72, 0x67, 0x65, 0x64] := by
  rw [oneline_eq]; decide +kernel
/-- `café` + U+2028: the code lets `é` through, the repair escapes it -/
example : oneline [0x63, 0x61, 0x66, 0xE9, 0x2028] = [0x63, 0x61, 0x66, 0xE9] ++ [0x5C, 0x75, 0x32, 0x30, 0x32, 0x38] := by
  rw [oneline_eq]; decide +kernel
example : onelineFixed [0x63, 0x61, 0x66, 0xE9, 0x2028] = [0x63, 0x61, 0x66, 0x5C, 0x78, 0x65, 0x39, 0x5C, 0x75, 0x32, 0x30, 0x32, 0x38] := by
  rw [onelineFixed_eq]; decide +kernel

end Exa.Props.C13
