import ExaModel.Lemmas.ApiReader
import ExaModel.Lemmas.ApiSelector
import ExaModel.Lemmas.ApiEffect
set_option linter.unusedVariables false
/-!
# C14 — API commands: same order, one acknowledgement each, no side effects on error

Statement (properties.jsonl): for any sequence of command lines written by an API process,
however the pipe delivers the bytes (split or coalesced reads), ExaBGP executes the same
commands in the same order and, with acknowledgements enabled, answers each command with exactly
one terminal done or error reply, in command order.  A command that is unknown or fails to parse
changes no RIB, and a command carrying a neighbor selector changes only the neighbors that match
every term of the selector.

Model: `Exa.Api` (M-Api).  `feed` is one `_async_reader_callback`, `step` is `API.process` plus
the scheduled callback run to completion, `run` a whole command list; the route grammar is an
arbitrary function `Env.parse` (every theorem holds for all of them).

What is proved of the code as it is, and what only of the repaired code:
* reader clauses: as the code is, under the side condition the code itself imposes (ASCII, every
  line within `MAX_COMMAND_SIZE`); `oversize_depends_on_chunking` shows the condition is needed —
  for lines longer than that the code's behaviour DOES depend on the chunking (finding).
* one acknowledgement, no effect of unknown / unparsable commands: as the code is.
* selector clause: FALSE of the code as it is (`f13_witness`, `f21_witness`, `watchdog_witness`);
  proved for `Quirks.fixed` (the three repairs of proposed_fixes/): `selector_all_terms`,
  `only_matched_change`.
-/
namespace Exa.Props.C14
open Exa Exa.Api Exa.Rib Exa.Generated.ApiTable

/-! ## The reader: same commands whatever the chunking -/

/-- **`feed st (a ++ b) = feed (feed st a) b`**: one read bringing `a ++ b` leaves the reader
    (buffer, liveness, queued commands) exactly where two reads bringing `a` then `b` leave it —
    for ASCII input whose lines (including the unfinished last one) fit in `max`. -/
theorem lines_append (strict : Bool) (max : Nat) (st : Reader) (a b : List Nat) (ha : Ascii (a ++ b))
    (hw : Within max (st.buf ++ (a ++ b))) : feed strict max st (a ++ b) = feed strict max (feed strict max st a) b :=
  feed_append strict max st a b ha hw

/-- **Chunking independence (full statement of the first clause for the reader).** Any two
    chunkings of the same byte string leave the same reader state, in particular the same queue
    of commands in the same order. -/
theorem c14_chunking (strict : Bool) (max : Nat) (st : Reader) (cs1 cs2 : List (List Nat)) (hn : NoNl st.buf)
    (hsame : cs1.flatten = cs2.flatten) (ha : Ascii cs1.flatten) (hw : Within max (st.buf ++ cs1.flatten)) :
    feedAll strict max st cs1 = feedAll strict max st cs2 := by
  rw [feedAll_eq_feed strict max cs1 st hn ha hw, feedAll_eq_feed strict max cs2 st hn (hsame ▸ ha) (hsame ▸ hw), hsame]

/-- What the queue is: from a fresh reader, after any chunking of `bytes`, the queued commands are
    the complete lines of `bytes`, in order, right-stripped, without the `debug ` lines, each
    passed through `formated`; the unfinished last line waits in the buffer. -/
theorem c14_reader_spec (strict : Bool) (max : Nat) (cs : List (List Nat)) (ha : Ascii cs.flatten) (hw : Within max cs.flatten) :
    (feedAll strict max {} cs).queue = lineCmds (split cs.flatten).1 ∧ (feedAll strict max {} cs).buf = (split cs.flatten).2
      ∧ (feedAll strict max {} cs).dead = false := by
  have hn : NoNl ({} : Reader).buf := noNl_nil
  have hw' : Within max (({} : Reader).buf ++ cs.flatten) := by simpa using hw
  rw [feedAll_eq_feed strict max cs {} hn ha hw', feed_alive rfl ha hw']
  simp

/-- The invariant used above is kept by every read (so it holds along any run from a fresh reader). -/
theorem reader_buffer_has_no_newline (strict : Bool) (max : Nat) (st : Reader) (c : List Nat) (h : NoNl st.buf) :
    NoNl (feed strict max st c).buf := feed_buf_noNl strict max st c h

/-- **Finding (negation witness).** Without the length condition the law fails: with `max = 4` the
    line `abcdef` is executed when it arrives in one read and kills the helper when it arrives as
    `abcde` + `f\n`. (Replayed on the real reader with `MAX_COMMAND_SIZE` by the harness.) -/
theorem oversize_depends_on_chunking :
    feed false 4 {} ([97, 98, 99, 100, 101] ++ [102, 10]) ≠ feed false 4 (feed false 4 {} [97, 98, 99, 100, 101]) [102, 10]
    ∧ feed true 4 {} ([97, 98, 99, 100, 101] ++ [102, 10]) = feed true 4 (feed true 4 {} [97, 98, 99, 100, 101]) [102, 10] := by
  decide

/-! ## One terminal reply per command, in command order -/

/-- `silence-ack` (switches acknowledgements off, not acknowledged itself) and `crash` (fault
    injection: `done`, then the injected failure is reported as `error`) are the two commands the
    clause does not apply to. -/
def Regular (r : Routed) : Prop :=
  (∀ sel peers rest action, r ≠ .call .reactor_silence_ack sel peers rest action) ∧
  (∀ sel peers rest action, r ≠ .call .reactor_crash sel peers rest action)

/-- **One acknowledgement.** With acknowledgements on, a command — valid, unknown, unparsable,
    buffered in a group, selecting nobody — whose handler is within the model (`modelled`) is
    answered by exactly one terminal reply. -/
theorem one_ack (env : Env) (st : St) (cmd : Cmd) (hack : st.ack = true) (hreg : Regular (routeCmd env st cmd))
    (hm : (step env st cmd).2.modelled = true) : ∃ r, (step env st cmd).2.replies = [r] := by
  have h := exec_one env st cmd (routeCmd env st cmd) hack hreg.1 hreg.2 hm
  unfold step
  match hr : (exec env st cmd (routeCmd env st cmd)).2.replies, h with
  | [r], _ => exact ⟨r, rfl⟩

/-- The replies of a run are the replies of its commands, concatenated in command order (the
    handler and its callback complete before the next command is taken: `ASYNC._run_async`). -/
theorem replies_in_order (env : Env) (st : St) (c : Cmd) (cs : List Cmd) :
    replies (run env st (c :: cs)).2 = (step env st c).2.replies ++ replies (run env (step env st c).1 cs).2 := by
  simp [run, replies]

theorem run_length (env : Env) (cs : List Cmd) : ∀ st, (run env st cs).2.length = cs.length := by
  induction cs with
  | nil => intro st; rfl
  | cons c cs ih => intro st; simp [run, ih]

/-- **One acknowledgement each, over any command sequence.** Every command of a run that was
    processed with acknowledgements on has exactly one terminal reply. -/
theorem one_ack_run (env : Env) (cs : List Cmd) : ∀ (st : St), ∀ e ∈ (run env st cs).2,
    e.ackBefore = true → Regular e.routed → e.out.modelled = true → ∃ r, e.out.replies = [r] := by
  induction cs with
  | nil => intro st e he; simp [run] at he
  | cons c cs ih =>
    intro st e he hack hreg hm
    simp only [run, List.mem_cons] at he
    rcases he with rfl | he
    · exact one_ack env st c hack hreg hm
    · exact ih _ e he hack hreg hm

/-- Hence, when acknowledgements stay on, there are exactly as many terminal replies as commands. -/
theorem ack_count (env : Env) (cs : List Cmd) (st : St)
    (hall : ∀ e ∈ (run env st cs).2, e.ackBefore = true ∧ Regular e.routed ∧ e.out.modelled = true) :
    (replies (run env st cs).2).length = cs.length := by
  have h1 : ∀ e ∈ (run env st cs).2, e.out.replies.length = 1 := by
    intro e he
    obtain ⟨ha, hr, hm⟩ := hall e he
    obtain ⟨r, hr'⟩ := one_ack_run env cs st e he ha hr hm
    simp [hr']
  rw [← run_length env cs st]
  generalize (run env st cs).2 = tr at h1
  induction tr with
  | nil => rfl
  | cons e tr ih =>
    simp only [replies, List.flatMap_cons, List.length_append, List.length_cons] at ih ⊢
    rw [h1 e (by simp), ih (fun e he => h1 e (by simp [he]))]
    omega

/-! ## Unknown or unparsable: no RIB changes -/

/-- **Unknown command / no matching peer**: nothing changes at all (RIBs, group buffer, ack state,
    API version); the only output is the `error` reply. -/
theorem unknown_no_effect (env : Env) (st : St) (cmd : Cmd) (h : routeCmd env st cmd = .error) :
    (step env st cmd).1 = st ∧ (step env st cmd).2.replies = st.reply .error := by
  unfold step
  rw [h]
  exact ⟨rfl, rfl⟩

/-- **Unparsable command**: if the route grammar refuses every text (`Refuses env`: it returns no
    route or raises, whatever it is given), no RIB changes — whether the command goes to a v4 handler, through
    `v6_announce`/`v6_withdraw`, into a group buffer, or is a `group end` / inline group whose
    lines are all refused.  (`changesWithoutParsing`: watchdog, flush and clear take no route text.) -/
theorem unparsable_no_effect (env : Env) (st : St) (cmd : Cmd) (hp : Refuses env)
    (hh : ∀ h sel peers rest action, routeCmd env st cmd = .call h sel peers rest action →
      changesWithoutParsing h = false ∧ rest.head? ≠ some Kw.k_watchdog) :
    (step env st cmd).1.ribs = st.ribs :=
  exec_refused env st cmd (routeCmd env st cmd) hp hh

/-- Handler-level version with the one text the handler parses. -/
theorem unparsable_no_effect_handler (env : Env) (st : St) (h : Handler) (peers : List Nat) (rest : List Tok)
    (action : Nat) (fn : Nat) (ann validate : Bool) (hr : routeHandler h = some (fn, ann, validate))
    (hp : env.parse { fn := fn, action := action, toks := stripSync rest } = none ∨
          env.parse { fn := fn, action := action, toks := stripSync rest } = some []) :
    (runHandler env st h peers rest action).1 = st ∧
    (runHandler env st h peers rest action).2.replies = st.reply .error := by
  unfold runHandler
  rw [hr]
  rcases hp with e | e <;> simp [e]

/-! ## The selector -/

/-- what it is for a term (`'peer-as 65001'`, `'neighbor 10.0.0.1'`, …) to match a neighbor: the
    term is the wildcard, or its words occur consecutively in `Neighbor.name()` -/
def TermMatches (t : Term) (n : Nbr) : Prop := isWild t = true ∨ ∃ pre post, n.name = pre ++ t ++ post

/-- **`selector_all_terms`** (after the F13 repair): a neighbor is selected by a list of
    descriptions iff it belongs to the service and matches EVERY term of SOME description. -/
theorem selector_all_terms (q : Quirks) (hq : q.wildcardShort = false) (nbrs : List Nbr) (ds : List Desc)
    (hne : ds ≠ []) (i : Nat) :
    i ∈ Sel.resolve q nbrs (.descs ds) ↔
      ∃ n, nbrs[i]? = some n ∧ n.attached = true ∧ ∃ d ∈ ds, ∀ t ∈ d, TermMatches t n := by
  simp only [Sel.resolve, mem_matchNeighbors q nbrs hne, matchNeighbor_fixed hq, TermMatches, infixOf_iff]

/-- `*` (and an empty description list) selects the neighbors of the service, nothing else. -/
theorem selector_all (q : Quirks) (nbrs : List Nbr) (i : Nat) :
    i ∈ Sel.resolve q nbrs .all ↔ ∃ n, nbrs[i]? = some n ∧ n.attached = true := by
  simp only [Sel.resolve, mem_servicePeers]

/-- **`only_matched_change`** (repaired code): a command that carries a selector changes the RIB
    of neighbor `i` only if `i` is selected — i.e. (`selector_all_terms`) only if it matches every
    term of one of the selector's descriptions.  Covers every handler reachable with a selector:
    announce/withdraw of every type, watchdog, teardown, inline groups. -/
theorem only_matched_change (env : Env) (st : St) (cmd : Cmd) (hq : env.q = Quirks.fixed)
    {h : Handler} {sel : Sel} {peers : List Nat} {rest : List Tok} {a : Nat}
    (hr : routeCmd env st cmd = .call h (some sel) peers rest a) (hg : h ≠ .group_group_end)
    (i : Nat) (hch : (step env st cmd).1.ribs[i]? ≠ st.ribs[i]?) : i ∈ sel.resolve env.q env.nbrs := by
  have hf : env.q.v6Fallback = false := by rw [hq]; rfl
  have hw : env.q.watchdogAll = false := by rw [hq]; rfl
  have hp := routeCmd_peers hf hr
  refine Decidable.byContradiction fun hi => hch ?_
  unfold step
  rw [hr]
  exact exec_get env st cmd h (some sel) rest a hw hg (by rw [hp]; exact hi)

/-- table fact used by `only_matched_change`: no path of the dispatch tree reaches `group end`
    through a selector, so the excluded case does not exist in the tree under test. -/
theorem group_end_has_no_selector : ∀ p ∈ v6Paths, p.2 = Handler.group_group_end → ¬ p.1.contains Elem.sel := by
  decide

/-- table fact: the two copies of `SELECTOR_KEYS` (command/limit.py, dispatch/common.py) agree -/
theorem selector_keys_agree : selectorKeys = selectorKeysDispatch := by decide

/-- table fact: the selector keys are key words of `Neighbor.name()` (a term `key value` can match) -/
theorem selector_keys_in_name : ∀ k ∈ selectorKeys, k ∈ nameKeys := by decide

/-- table fact: the announce/withdraw type tables never lead to `silence_ack` / `crash` -/
theorem type_tables_regular : ∀ p ∈ v6AnnounceTypes ++ v6WithdrawTypes,
    p.2 ≠ Handler.reactor_silence_ack ∧ p.2 ≠ Handler.reactor_crash := typeTables_ok

/-! ## Findings: the selector clause is false of the code as it is -/

def nbrA : Nbr :=
  { peerAddr := [49, 48, 46, 48, 46, 48, 46, 49],
    localIp := [49, 57, 50, 46, 48, 46, 50, 46, 49],
    localAs := [54, 53, 48, 48, 48],
    peerAs := [54, 53, 48, 48, 49],
    routerId := [49, 46, 49, 46, 49, 46, 49],
    familyAllowed := [105, 110, 45, 111, 112, 101, 110],
    families := [1], attached := true, enhanced := false }
/-- same, but address 10.0.0.2 and peer-as 65002 -/
def nbrB : Nbr := { nbrA with peerAddr := [49, 48, 46, 48, 46, 48, 46, 50], peerAs := [54, 53, 48, 48, 50] }
def peerAs65001 : Term := [[112, 101, 101, 114, 45, 97, 115], [54, 53, 48, 48, 49]]

/-- **F13.** `neighbor * peer-as 65001` selects the neighbor whose peer-as is 65002: the wildcard
    term ends `match_neighbor` before the other terms are looked at. -/
theorem f13_witness :
    matchNeighbor Quirks.code [[Kw.k_neighbor, Kw.k_star], peerAs65001] nbrB.name = true
    ∧ ¬ (∃ pre post, nbrB.name = pre ++ peerAs65001 ++ post)
    ∧ matchNeighbor Quirks.fixed [[Kw.k_neighbor, Kw.k_star], peerAs65001] nbrB.name = false := by
  refine ⟨by decide, ?_, by decide⟩
  rw [← infixOf_iff]
  decide

/-- `peer 10.9.9.9 announce route 10.0.1.0/24 next-hop 192.0.2.1` -/
def cmdNoSuchPeer : Cmd := [112, 101, 101, 114, 32, 49, 48, 46, 57, 46, 57, 46, 57, 32, 97, 110, 110, 111, 117, 110, 99,
  101, 32, 114, 111, 117, 116, 101, 32, 49, 48, 46, 48, 46, 49, 46, 48, 47, 50, 52, 32, 110, 101, 120, 116, 45, 104, 111,
  112, 32, 49, 57, 50, 46, 48, 46, 50, 46, 49]

/-- **F21.** v6: a selector that matches nobody (`peer 10.9.9.9 …`) is handed ALL peers; the
    repaired dispatcher refuses the command. -/
theorem f21_witness :
    (match dispatchV6 Quirks.code [nbrA, nbrB] cmdNoSuchPeer with
      | .ok h (some sel) peers _ _ =>
        decide (h = Handler.announce_v6_announce) && decide (peers = [0, 1])
          && (sel.resolve Quirks.code [nbrA, nbrB]).isEmpty
      | _ => false) = true
    ∧ dispatchV6 Quirks.fixed [nbrA, nbrB] cmdNoSuchPeer = .error := by
  decide +kernel

/-- **Watchdog.** The watchdog handlers apply the command to every configured neighbor, selected or
    not (even neighbors of another process): the targets do not depend on `peers`. -/
theorem watchdog_witness (env : Env) (st : St) (rest : List Tok) (action : Nat) (hq : env.q.watchdogAll = true)
    (peers peers' : List Nat) :
    (runHandler env st .watchdog_announce_watchdog peers rest action).1.ribs
      = (runHandler env st .watchdog_announce_watchdog peers' rest action).1.ribs := by
  -- both sides are `applyPeers (if env.q.watchdogAll then all neighbors else the peers given) …`
  show applyPeers (if env.q.watchdogAll = true then _ else peers) _ st.ribs =
    applyPeers (if env.q.watchdogAll = true then _ else peers') _ st.ribs
  rw [if_pos hq, if_pos hq]

/-! ## Non-vacuity -/

/-- a two-chunk delivery cut inside the word `announce`, with an empty line at the end -/
example : (feedAll false 1048576 {} [[35, 32, 111, 110, 101, 10, 97, 110, 110], [111, 117, 110, 99, 101, 32, 120, 10, 10]]).queue
    = [[35, 32, 111, 110, 101], [97, 110, 110, 111, 117, 110, 99, 101, 32, 120], []] := by decide +kernel
example : Ascii ([[35, 32, 111, 110, 101, 10, 97, 110, 110], [111, 117, 110, 99, 101, 32, 120, 10, 10]] : List (List Nat)).flatten := by
  decide
example : Within 1048576 ([[35, 32, 111, 110, 101, 10, 97, 110, 110], [111, 117, 110, 99, 101, 32, 120, 10, 10]] : List (List Nat)).flatten := by
  decide
/-- `formated` at work: tabs, brackets, commas, runs of spaces -/
example : formated [32, 97, 9, 91, 49, 44, 50, 93, 32, 32, 98, 32] = [97, 32, 91, 32, 49, 32, 44, 32, 50, 32, 93, 32, 98] := by decide

/-- `neighbor 10.0.0.1 announce route 10.0.1.0/24 next-hop 192.0.2.1` -/
def cmdOne : Cmd := [110, 101, 105, 103, 104, 98, 111, 114, 32, 49, 48, 46, 48, 46, 48, 46, 49, 32, 97, 110, 110, 111, 117,
  110, 99, 101, 32, 114, 111, 117, 116, 101, 32, 49, 48, 46, 48, 46, 49, 46, 48, 47, 50, 52, 32, 110, 101, 120, 116, 45,
  104, 111, 112, 32, 49, 57, 50, 46, 48, 46, 50, 46, 49]

def envFixed : Env :=
  { q := Quirks.fixed, nbrs := [nbrA, nbrB], service := [115, 118, 99], wdName := fun _ => 0,
    parse := fun _ => some [{ route := { nlri := 1, fam := 1, attr := 1, nh := 1 }, valid := true }] }
def st0 : St := { version := 4, ack := true, group := none, ribs := [Rib.init true [1], Rib.init true [1]] }

/-- the hypotheses of `only_matched_change` are satisfiable and the conclusion is not trivial:
    the command is routed with a selector to neighbor 0 only, whose RIB does change -/
example : (match routeCmd envFixed st0 cmdOne with
    | .call h (some _) peers _ _ => decide (h = Handler.announce_announce_route) && decide (peers = [0])
    | _ => false) = true := by decide +kernel
example : ((step envFixed st0 cmdOne).1.ribs.map (fun r => r.cache.length)) = [1, 0] := by decide +kernel
example : (step envFixed st0 cmdOne).2.replies = [.done] := by decide +kernel
/-- `bogus`: unknown, one `error`, nothing changes -/
example : routeCmd envFixed st0 [98, 111, 103, 117, 115] = .error := by decide
example : (step envFixed st0 [98, 111, 103, 117, 115]).2.replies = [.error] := by decide

end Exa.Props.C14
