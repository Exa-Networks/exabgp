/-
  C08 — Malformed attributes never yield announced routes (RFC 7606).

  "An UPDATE carrying a malformed path attribute never results in a route being announced on the API or stored
   in Adj-RIB-In with missing or misparsed attributes: according to the RFC 7606 class of the attribute its
   routes are reported as withdrawn (treat-as-withdraw), or only that attribute is dropped and the rest kept
   (attribute discard), or the session is reset with an UPDATE Message Error NOTIFICATION. An attribute whose
   declared length overruns the attribute block is never accepted as a shorter valid attribute."

  Model: `Model/Attr7606.lean` (ExaBGP's attribute loop, value decoders, `_parse_payload`; RFC spec
  `rfc7606Class`, `wfAttr`). `decodeExa xp body = decodeWith noFix attrTable xp body` is the code as it is, on the
  table re-extracted from `Attribute.registered_attributes` at every run. `C08Holds fx tb xp body`
  (Lemmas/Attr7606Top.lean) is the statement of the property for one body.

  On the tree as found the statement failed in five ways (F5: the treat-as-withdraw marker was never acted on;
  F6: an overrunning attribute was accepted as a shorter one; C08a: NEXT_HOP of 16 bytes; C08c: flag conflict on
  a class-less attribute dropped silently, COMMUNITY / EXTENDED / IPv6-EXTENDED without class; C08b). Four are
  repaired in /repo (2df5c0b, fe3650b, e0e6b78, cfd78d2); the inputs that exposed them are the `example`s below,
  which show the repaired behaviour, and corpus/C08 regression cases.

  FULL STATEMENT (kept visible; FALSE of the code as it is because of ONE open finding, C08b):

      c08 : ∀ xp body, C08Holds noFix attrTable xp body

      refuted by `c08_fails_segment0` (`decide`; replayed on the real code from corpus/C08/05-C08b-segment0):
      an AS_PATH (or AS4_PATH) segment with no AS number is accepted (RFC 7606 §7.2: malformed,
      treat-as-withdraw). The repair (proposed_fixes/c08b-aspath-empty-segment.md) breaks a unit test whose
      helper encodes the empty AS_PATH that way, so it is a known finding, not a commit.

  PROVED:
      `c08_partial`    THE theorem about the code as it is: the full conclusion for every malformed first
                       occurrence of every attribute, with one guard that only bites on AS_PATH / AS4_PATH
                       (`GapFree noFix`: the value is not one that only the lenient segment walk accepts)
      `c08_repaired`   the FULL statement for the code with the C08b repair, no side condition
      `c08_general`    both at once (any state of the open repair, any table with the row properties)
      `c08_overrun`    the last sentence of the property, in full, for the code as it is
      `overrun_never_kept`, `parse_errors_are_update_errors`, the table theorems.
      `table_classes_rfc_partial`: every row has the RFC class except AS4_PATH (treat-as-withdraw where RFC 6793
                       allows attribute discard: stricter).
-/
import ExaModel.Lemmas.Attr7606Top
import ExaModel.Generated.FamilyTable

namespace Exa.Props.C08
open Exa Exa.Wire Exa.Attr7606
open Exa.Generated.AttrTable (attrTable Row)

/-- The generated attribute table has the row properties every theorem below assumes: each FLAG is the RFC's
    Optional/Transitive pair, DISCARD alone is used only for an RFC discard-class code, NEXT_HOP and the
    list-valued attributes have no VALID_ZERO, and every code the RFCs speak about is registered. -/
theorem table_ok : TableOk attrTable := by decide +kernel

/-- Every value decoder that can raise ValueError belongs to a class with TREAT_AS_WITHDRAW or DISCARD, so no
    exception other than Notify leaves `AttributeCollection.parse`. -/
theorem table_value_errors_classed : ValueErrClassed attrTable := by decide +kernel

/-- No class sets both TREAT_AS_WITHDRAW and DISCARD. -/
theorem table_flags_exclusive : ∀ row ∈ attrTable, ¬ (row.treatAsWithdraw = true ∧ row.discard = true) := by decide +kernel

/-- Every generated row whose code RFC 7606 §7 (RFC 6793 §6,
    RFC 8092 §6) gives a class has exactly that class — exactly one of TREAT_AS_WITHDRAW / DISCARD set for
    withdraw / discard, none for session reset (MP_REACH_NLRI, MP_UNREACH_NLRI) — with ONE named exception:
    AS4_PATH (17) is treat-as-withdraw where RFC 6793 §6 allows attribute discard (stricter: the routes are
    withdrawn instead of kept without AS4_PATH; nothing wrong can be announced). -/
theorem table_classes_rfc_partial : ∀ row ∈ attrTable, ∀ c, rfc7606Class row.id = some c →
    classOf row = c ∨ (row.id = 17 ∧ c = .discard ∧ classOf row = .withdraw) := by decide +kernel

/-- The hand copy of `Family.size` in the model is a sub-table of the generated one. -/
theorem mp_nh_table_sub : ∀ e ∈ mpNhLens, e ∈ Exa.Generated.FamilyTable.familySize := by decide +kernel

/-- C08 for either state of the open repair, any table with the row properties, any session, any body: if the
    body decodes to an UpdateCollection `rep`, then for every RFC-malformed first occurrence `t` that does not
    fall into the hole the open repair closes (`GapFree fx`), either `rep` is the empty End-of-RIB collection, or
    nothing is announced and every route the UPDATE carries is in `rep.withdraw` (treat-as-withdraw), or `t` is of
    the RFC discard class and `rep.attrs` is exactly what the block without `t` yields (that attribute dropped,
    the others kept). -/
theorem c08_general (fx : Fix) (tb : List Row) (htb : TableOk tb) (xp : XP) (body : Bytes) (rep : Rep)
    (h : decodeWith fx tb xp body = .ok rep)
    (pre : List Tlv) (t : Tlv) (post : List Tlv) (hocc : occurrences body = pre ++ t :: post)
    (hfirst : ∀ u ∈ pre, u.code ≠ t.code) (hm : malformed xp.p t = true) (hg : GapFree fx xp t) :
    rep = emptyRep ∨
    (rep.announce = [] ∧ ∃ pt, decodeParts fx tb xp body = .ok pt ∧ ∀ r ∈ pt.nlri, r ∈ rep.withdraw) ∨
    (rfc7606Class t.code = some .discard ∧
      ∃ st', blockAttrs fx tb xp (pre ++ post) (cutOf (blockOf body)) = .ok st' ∧ rep.attrs = reportedAttrs st') :=
  decode_malformed htb h pre t post hocc hfirst hm hg

/-- C08, the FULL statement, for the code with the one open repair (C08b: an AS_PATH / AS4_PATH segment with no
    AS number is malformed) and any table with the row properties — in particular the generated one
    (`table_ok`): no side condition is left. -/
theorem c08_repaired (tb : List Row) (htb : TableOk tb) (xp : XP) (body : Bytes) : C08Holds allFix tb xp body := by
  intro rep pre t post h hocc hfirst hm
  exact c08_general allFix tb htb xp body rep h pre t post hocc hfirst hm (fun h => h)

/-- C08 for THE CODE AS IT IS, on the generated table: the full conclusion (End-of-RIB, or nothing announced and
    every route of the UPDATE withdrawn, or a discard-class attribute dropped alone with the others kept) for
    every RFC-malformed first occurrence of every attribute. The one guard, `GapFree noFix`, is automatically
    true unless the attribute is AS_PATH or AS4_PATH (`gapFree_of_not_aspath`), where it excludes exactly the
    values that only the lenient segment walk accepts (C08b, the open finding). -/
theorem c08_partial (xp : XP) (body : Bytes) (rep : Rep) (h : decodeExa xp body = .ok rep)
    (pre : List Tlv) (t : Tlv) (post : List Tlv) (hocc : occurrences body = pre ++ t :: post)
    (hfirst : ∀ u ∈ pre, u.code ≠ t.code) (hm : malformed xp.p t = true)
    (hg : (t.code = 2 ∨ t.code = 17) → GapFree noFix xp t) :
    rep = emptyRep ∨
    (rep.announce = [] ∧ ∃ pt, decodeParts noFix attrTable xp body = .ok pt ∧ ∀ r ∈ pt.nlri, r ∈ rep.withdraw) ∨
    (rfc7606Class t.code = some .discard ∧
      ∃ st', blockAttrs noFix attrTable xp (pre ++ post) (cutOf (blockOf body)) = .ok st' ∧ rep.attrs = reportedAttrs st') := by
  have hg' : GapFree noFix xp t := by
    by_cases h2 : t.code = 2
    · exact hg (Or.inl h2)
    · by_cases h17 : t.code = 17
      · exact hg (Or.inr h17)
      · exact gapFree_of_not_aspath noFix xp t h2 h17
  exact c08_general noFix attrTable table_ok xp body rep h pre t post hocc hfirst hm hg'

/-- The last sentence of the property, for the code as it is (and any table): an UPDATE with an attribute whose declared
    length overruns the block — any occurrence, first or not, any code, known or not — announces nothing. -/
theorem c08_overrun (fx : Fix) (tb : List Row) (xp : XP) (body : Bytes) (rep : Rep)
    (h : decodeWith fx tb xp body = .ok rep) (t : Tlv) (ht : t ∈ occurrences body) (ho : t.overrun = true) :
    rep = emptyRep ∨ (rep.taw = true ∧ rep.announce = []) :=
  decode_overrun h t ht ho

/-- The loop never keeps (nor discards, nor silently drops) an overrunning attribute: the decision is
    treat-as-withdraw before anything else is looked at. -/
theorem overrun_never_kept (fx : Fix) (tb : List Row) (xp : XP) (present : List Nat) (t : Tlv)
    (ho : t.overrun = true) : decide1 fx tb xp present t = .taw :=
  decide1_overrun fx tb xp present t ho

/-- "… or the session is reset with an UPDATE Message Error NOTIFICATION": on the generated table, whatever
    ends the parsing of an attribute block early is a Notify with code 3 (never another exception) — or lies
    outside the model (`unmodelled`: PMSI, TUNNEL_ENCAP, AIGP, BGP-LS, PREFIX_SID, MP families beyond AFI 1/2). -/
theorem parse_errors_are_update_errors (fx : Fix) (xp : XP) (blk : Bytes) (e : Fail)
    (h : parseBlock fx attrTable xp blk = .error e) : FailOk e :=
  parseBlock_fail table_value_errors_classed blk e h

def xp0 : XP := { p := { asn4 := true, addpath := [], extnh := [], msgSize := 65535 }, families := [(1, 1), (2, 1)] }

def enc (t : Tlv) : Bytes := t.flag :: t.code :: t.dlen :: t.val
def mkBody (ts : List Tlv) (nlri : Bytes) : Bytes :=
  [0, 0] ++ be16 (ts.flatMap enc).length ++ ts.flatMap enc ++ nlri

def tOrigin : Tlv := ⟨0x40, 1, 1, [0]⟩
def tAsPath : Tlv := ⟨0x40, 2, 6, [2, 1, 0, 0, 0xfd, 0xe9]⟩
def tNextHop : Tlv := ⟨0x40, 3, 4, [10, 0, 0, 1]⟩
def tMed : Tlv := ⟨0x80, 4, 4, [0, 0, 0, 5]⟩
def nlri24 : Bytes := [24, 10, 0, 0]

def tOrigin9 : Tlv := ⟨0x40, 1, 1, [9]⟩
def tMed3 : Tlv := ⟨0x80, 4, 3, [0, 0, 5]⟩
def tCommOverrun : Tlv := ⟨0xc0, 8, 8, [0xfd, 0xe8, 0, 1]⟩
def tNextHop16 : Tlv := ⟨0x40, 3, 16, [0, 0, 0, 0, 0, 0, 0, 0, 0, 0, 0, 0, 0, 0, 0, 0]⟩
def tSeg0 : Tlv := ⟨0x40, 2, 2, [2, 0]⟩
def tUnreachFlags : Tlv := ⟨0xc0, 15, 10, [0, 2, 1, 48, 0x20, 0x01, 0x0d, 0xb8, 0xff, 0xff]⟩
def tCommFlags : Tlv := ⟨0x40, 8, 4, [0xfd, 0xe8, 0, 1]⟩
def tOriginLowBits : Tlv := ⟨0x4f, 1, 1, [0]⟩

def bodyOrigin9 : Bytes := mkBody [tOrigin9, tAsPath, tNextHop, tMed] nlri24
def bodyMed3 : Bytes := mkBody [tOrigin, tAsPath, tNextHop, tMed3] nlri24
/-- the COMMUNITY is the last attribute: its declared 8 bytes run 4 bytes past the block -/
def bodyOverrun : Bytes :=
  [0, 0] ++ be16 27 ++ ([tOrigin, tAsPath, tNextHop].flatMap enc ++ enc tCommOverrun) ++ nlri24
def bodyNextHop16 : Bytes := mkBody [tOrigin, tAsPath, tNextHop16] nlri24
def bodySeg0 : Bytes := mkBody [tOrigin, tSeg0, tNextHop] nlri24
def bodyUnreachFlags : Bytes := mkBody [tOrigin, tAsPath, tNextHop, tUnreachFlags] nlri24
def bodyCommFlags : Bytes := mkBody [tOrigin, tAsPath, tNextHop, tCommFlags] nlri24

/-- C08b, OPEN: an AS_PATH segment with no AS number is accepted by the code as it is (RFC 7606 §7.2:
    malformed): not marked, 10.0.0.0/24 announced — the full statement fails on this body. -/
theorem c08_fails_segment0 : ¬ C08Holds noFix attrTable xp0 bodySeg0 :=
  not_c08_of [tOrigin] tSeg0 [tNextHop] (by decide +kernel) (by decide +kernel) (by decide +kernel) (by decide +kernel) (by decide +kernel)

-- … and is the only thing `GapFree` excludes there: the repaired segment walk refuses the value
example : ¬ GapFree noFix xp0 tSeg0 := by unfold GapFree; decide +kernel
example : okAnd (fun r => r.announce.isEmpty && r.taw && r.withdraw.length == 1)
    (decodeWith allFix attrTable xp0 bodySeg0) = true := by decide +kernel

-- F5 (2df5c0b): ORIGIN 9 → marked, nothing announced, 10.0.0.0/24 withdrawn
example : okAnd (fun r => r.announce.isEmpty && r.taw && r.withdraw.length == 1 && r.attrs.map (·.code) == [2, 3, 4])
    (decodeExa xp0 bodyOrigin9) = true := by decide +kernel
-- F5: MED of 3 bytes, the same
example : okAnd (fun r => r.announce.isEmpty && r.taw && r.withdraw.length == 1) (decodeExa xp0 bodyMed3) = true := by decide +kernel
-- F6 (fe3650b): the COMMUNITY declared 8 with 4 left is not an attribute of the result
example : okAnd (fun r => r.announce.isEmpty && r.taw && !r.attrs.any (fun k => k.code == 8))
    (decodeExa xp0 bodyOverrun) = true := by decide +kernel
-- C08a (e0e6b78): NEXT_HOP of 16 bytes is not kept
example : okAnd (fun r => r.announce.isEmpty && r.taw && !r.attrs.any (fun k => k.code == 3))
    (decodeExa xp0 bodyNextHop16) = true := by decide +kernel
-- C08c (cfd78d2): MP_UNREACH_NLRI with the Transitive bit → NOTIFICATION 3/4
example : (match decodeExa xp0 bodyUnreachFlags with | .error (.notify 3 4) => true | _ => false) = true := by decide +kernel
-- C08c on COMMUNITY: well-known flags → marked, nothing announced
example : okAnd (fun r => r.announce.isEmpty && r.taw) (decodeExa xp0 bodyCommFlags) = true := by decide +kernel
-- 9af6928: the four unused flag bits are ignored: ORIGIN with flags 0x4f is ORIGIN
example : okAnd (fun r => r.announce.length == 1 && !r.taw && r.attrs.map (·.code) == [1, 2, 3, 4])
    (decodeExa xp0 (mkBody [tOriginLowBits, tAsPath, tNextHop, tMed] nlri24)) = true := by decide +kernel

-- the hypotheses of `c08_partial` are met by a concrete UPDATE (treat-as-withdraw disjunct)
example : occurrences bodyOrigin9 = [] ++ tOrigin9 :: [tAsPath, tNextHop, tMed] := by decide +kernel
example : malformed xp0.p tOrigin9 = true := by decide +kernel

-- the discard disjunct: AGGREGATOR of 5 bytes on a 4-byte-AS session: dropped alone, route announced with
-- ORIGIN, AS_PATH, NEXT_HOP (the Discard marker is set: read_message hands the reactor a NOP after the API event)
def tAgg5 : Tlv := ⟨0xc0, 7, 5, [0, 0, 0, 0, 0]⟩
def bodyAgg5 : Bytes := mkBody [tOrigin, tAsPath, tNextHop, tAgg5] nlri24
example : malformed xp0.p tAgg5 = true ∧ rfc7606Class tAgg5.code = some .discard := by decide +kernel
example : okAnd (fun r => !r.announce.isEmpty && !r.taw && r.disc && r.attrs.map (·.code) == [1, 2, 3])
    (decodeExa xp0 bodyAgg5) = true := by decide +kernel

-- the well-formed base: one route announced, four attributes, not marked
example : okAnd (fun r => r.announce.length == 1 && !r.taw && !r.disc && r.attrs.map (·.code) == [1, 2, 3, 4])
    (decodeExa xp0 (mkBody [tOrigin, tAsPath, tNextHop, tMed] nlri24)) = true := by decide +kernel

-- a0181bd: AS4_PATH on a 4-octet session is dropped, on a 2-octet session merged
def tAs4Path : Tlv := ⟨0xc0, 17, 6, [2, 1, 0, 0, 0xfd, 0xe9]⟩
def tAsPath2 : Tlv := ⟨0x40, 2, 4, [2, 1, 0xfd, 0xe9]⟩
example : okAnd (fun r => r.attrs.map (·.code) == [1, 2, 3]) (decodeExa xp0 (mkBody [tOrigin, tAsPath, tNextHop, tAs4Path] nlri24)) = true := by decide +kernel
example : okAnd (fun r => r.attrs.map (fun k => (k.code, k.merged)) == [(1, false), (3, false), (2, true)])
    (decodeExa { xp0 with p := { xp0.p with asn4 := false } } (mkBody [tOrigin, tAsPath2, tNextHop, tAs4Path] nlri24)) = true := by decide +kernel

end Exa.Props.C08
