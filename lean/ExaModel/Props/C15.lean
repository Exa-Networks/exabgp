import ExaModel.Lemmas.IndexInj
import ExaModel.Lemmas.NlriFramingPack
/-!
# C15 — Every family and attribute survives a round trip; index / hash / equality contract

Statement (properties.jsonl): for every address family and attribute type ExaBGP registers,
decoding what ExaBGP encoded gives an equal object, and re-encoding what ExaBGP decoded from
canonical bytes gives the same bytes. Equal routes have equal indexes and hashes, routes that
differ in family, path identifier, prefix or route distinguisher never share an index, and the
JSON and text renderings of a decoded object are deterministic functions of its bytes.

Models: `Exa.Index` (M-Index: `index()`, `__eq__`, `__hash__` of INET / Label / IPVPN and
`Route.index()`), `Exa.Framing` (M-Framing: the bytes one NLRI of each registered family takes,
what the object keeps of them, what `pack_nlri` returns). The registries and the framing constants
are generated from /repo (`Generated/Registry.lean`).

Strength. Index / equality / hash: full (`index_injective`, `route_index_injective`,
`hash_respects_eq`, `eq_iff_index`) for the model of the code after commit 202850b; the collisions
of the earlier encoding (finding F15 and its two siblings, and the Label / IPVPN hash that
disagreed with `==`) are kept as examples and corpus cases. Framing: full at framing level for
every registered family; the value-level codecs of the ~20 non-IP route types and of the
attributes are covered by the registry-driven correspondence only (DESIGN section 8, C15: partial).
-/
namespace Exa.Props.C15
open Exa Exa.Index Exa.Framing Exa.Generated.Registry

/-- **`==` is equality of indexes** (`NLRI.__eq__`, inherited by the three classes). -/
theorem eq_iff_index (a b : IpNlri) : nlriEq a b = true ↔ index a = index b := by
  simp [nlriEq]

/-- **`index_injective` (full statement): routes that differ in family, path identifier, prefix or
    route distinguisher never share an index.** Any family, path-id or none, any mask, any prefix
    bytes, any label stack, RD or none; the side conditions are the guard `wf` and that both are of
    the same class (`kind`). (Labels are not in the property's list
    and `Label.index` / `IPVPN.index` leave them out: two routes that differ only in labels are
    the same route with another label binding, and are `==`.) -/
theorem index_injective (a b : IpNlri) (ha : wf a = true) (hb : wf b = true) (hk : a.kind = b.kind)
    (h : index a = index b) : key a = key b :=
  index_key a b (wf_iff a ha) (wf_iff b hb) hk h

/-- The same for `Route.index()` (the RIB key), which only prepends the family once more. -/
theorem route_index_injective (a b : IpNlri) (ha : wf a = true) (hb : wf b = true) (hk : a.kind = b.kind)
    (h : routeIndex a = routeIndex b) : key a = key b := by
  have wa := wf_iff a ha
  have wb := wf_iff b hb
  unfold routeIndex at h
  exact index_key a b wa wb hk (fam_split wa.afi wa.safi wb.afi wb.safi h).2.2

/-- **`hash_respects_eq` (full statement): equal routes have equal hashes**, for the three classes:
    Label and IPVPN hash their index; INET hashes its `_packed` behind the sentinel, which the
    index determines. -/
theorem hash_respects_eq (a b : IpNlri) (ha : wf a = true) (hb : wf b = true) (hk : a.kind = b.kind)
    (h : nlriEq a b = true) : hashKey a = hashKey b := by
  have h' := (eq_iff_index a b).1 h
  cases hka : a.kind with
  | inet =>
    exact inet_hashKey_of_index a b (wf_iff a ha) (wf_iff b hb) hka (by rw [← hk, hka]) h'
  | label =>
    have hkb : b.kind = .label := by rw [← hk, hka]
    simp [hashKey, hka, hkb, h']
  | vpn =>
    have hkb : b.kind = .vpn := by rw [← hk, hka]
    simp [hashKey, hka, hkb, h']

/-- Equal keys give equal indexes (so `==` is exactly "same family, path-id, prefix, RD"). -/
theorem index_of_key (a b : IpNlri) (ha : wf a = true) (hb : wf b = true) (hk : a.kind = b.kind)
    (h : key a = key b) : index a = index b := by
  rw [index_eq_uniform a (wf_iff a ha), index_eq_uniform b (wf_iff b hb)]
  simp only [key, Key.mk.injEq] at h
  obtain ⟨e1, e2, e3, e4, e5, e6⟩ := h
  simp [indexU, rdBits, rdFlag, hk, e1, e2, e3, e4, e5, e6]

/-! ### The collisions of the encoding before commit 202850b (finding F15), kept as regression
    cases: each pair collided under `indexOld` and is told apart by `index`. The same pairs are
    `corpus/C15/index-*.json` and are replayed on the real classes on every run. -/

/-- IPv6 `1:2:3:4::/72` without path-id, and `6c65:6448:1:2:3:4::/98` with path-id `b'disa'`. -/
def f15a : IpNlri := ⟨.inet, 2, 1, none, [], none, 72, [0, 1, 0, 2, 0, 3, 0, 4, 0]⟩
def f15b : IpNlri :=
  ⟨.inet, 2, 1, some disa, [], none, 98, [108, 101, 100, 72, 0, 1, 0, 2, 0, 3, 0, 4, 0]⟩
/-- Label: path-id 0.0.0.0 (`b'no-pi'`) `/100` against path-id `b'no-p'` `/105`. -/
def nopiA : IpNlri := ⟨.label, 2, 4, some [0, 0, 0, 0], [], none, 100, [0, 1, 0, 2, 0, 3, 0, 4, 0, 5, 0, 6, 0]⟩
def nopiB : IpNlri := ⟨.label, 2, 4, some nop, [], none, 105, [100, 0, 1, 0, 2, 0, 3, 0, 4, 0, 5, 0, 6, 0]⟩
/-- IPVPN built without an RD `/72` against RD `0.2.0.3:4` with `::/8`. -/
def rdA : IpNlri := ⟨.vpn, 2, 128, none, [], none, 72, [0, 1, 0, 2, 0, 3, 0, 4, 0]⟩
def rdB : IpNlri := ⟨.vpn, 2, 128, none, [], some [0, 1, 0, 2, 0, 3, 0, 4], 8, [0]⟩
/-- 10.0.0.0/24 with label 100 and with label 200 (`Label`, no ADD-PATH). -/
def labA : IpNlri := ⟨.label, 1, 4, none, [0, 6, 65], none, 24, [10, 0, 0]⟩
def labB : IpNlri := ⟨.label, 1, 4, none, [0, 12, 129], none, 24, [10, 0, 0]⟩

example : wf f15a = true ∧ wf f15b = true ∧ key f15a ≠ key f15b
    ∧ indexOld f15a = indexOld f15b ∧ index f15a ≠ index f15b ∧ routeIndex f15a ≠ routeIndex f15b := by decide +kernel
example : wf nopiA = true ∧ wf nopiB = true ∧ key nopiA ≠ key nopiB
    ∧ indexOld nopiA = indexOld nopiB ∧ index nopiA ≠ index nopiB := by decide +kernel
example : wf rdA = true ∧ wf rdB = true ∧ key rdA ≠ key rdB
    ∧ indexOld rdA = indexOld rdB ∧ index rdA ≠ index rdB := by decide +kernel
-- same route, another label: one index, and now one hash (the old hash covered the labels)
example : wf labA = true ∧ wf labB = true ∧ key labA = key labB ∧ index labA = index labB
    ∧ hashKeyOld labA ≠ hashKeyOld labB ∧ hashKey labA = hashKey labB := by decide +kernel

/-- **`frame_roundtrip`: the decoder takes exactly the canonical encoding of one NLRI off the front
    of the data and leaves the rest**, for every framing kind, any following bytes, and the payloads
    `Nlri.ok` admits. (FlowSpec: payloads below 256 bytes, so the two-octet length form only for
    240..255; longer ones are `flow_frame_roundtrip_rfc_shift`. VPLS: only when nothing follows —
    `vpls_second_nlri_refused`.) -/
theorem frame_roundtrip (n : Nlri) (c : Cfg) (h : n.ok c) (rest : Bytes)
    (hv : n.kind = .vpls → rest = []) :
    split n.kind c (n.frame ++ rest) = some ⟨n.frame, n.stored c, rest⟩ := by
  cases n with
  | pfx path mask v =>
    obtain ⟨h1, h2, h3⟩ := h
    cases path with
    | none =>
      simp only at h3
      simp only [Nlri.kind, split, h3]
      exact split_pfx_none mask v rest h1
    | some p =>
      simp only at h3
      simp only [Nlri.kind, split, h3.1]
      exact split_pfx_some p mask v rest h3.2 h1
  | typeLen8 ty v => exact split_typeLen8 ty v rest
  | mup arch code v => exact split_mup arch code v rest
  | bgpls code v =>
    obtain ⟨h1, h2, h3⟩ := h
    exact split_bgpls _ code v rest h2 h1 (fun e _ => h3 (by simpa using e))
  | flow v =>
    obtain ⟨f, hf, hs⟩ := split_flow v rest h
    simp only [Nlri.frame, hf, Option.getD_some]
    exact hs
  | vpls v =>
    obtain rfl := hv rfl
    rw [List.append_nil]
    exact split_vpls v h
  | rtcWild => rfl
  | rtc bits v => exact split_rtc bits v rest h.1 h.2.1 h.2.2
  | srPolicy v => exact split_srPolicy c.afi v rest h

/-- **What a decoder consumes is a prefix of its input, followed by what it leaves**: no byte is
    skipped, reordered or invented at framing level, for any input at all. -/
theorem split_consumes_prefix (k : Framing.Kind) (c : Cfg) (d : Bytes) (cut : Cut) (h : split k c d = some cut) :
    cut.consumed ++ cut.rest = d := by
  cases k
  case flow =>
    rcases splitFlowWith_eq_some h with ⟨b0, t, rfl, _, _, rfl⟩ | ⟨b0, b1, t, rfl, _, _, rfl⟩ <;> simp
  case vpls => obtain ⟨_, _, rfl⟩ := splitVpls_eq_some h; simp
  case rtc => rcases splitRtc_eq_some h with ⟨t, rfl, rfl⟩ | ⟨_, rfl⟩ <;> simp
  case srPolicy => obtain ⟨t, _, _, rfl⟩ := splitSrPolicy_eq_some h; simp
  all_goals  -- prefixBits, typeLen8, mup, type16Len16: the slice is `d.take n`, the rest `d.drop n`
    obtain ⟨n, rfl⟩ := split_whole (by simp) h
    exact List.take_append_drop n d

/-- **`packed_first_roundtrip`: `pack (unpack b) = b`** for every framing kind, for every `b` the
    decoder accepts as exactly one NLRI and that is in canonical form (`Canonical`: shortest
    FlowSpec length form, VPLS length 17, RTC type bits clear). -/
theorem packed_first_roundtrip (k : Framing.Kind) (c : Cfg) (b : Bytes) (cut : Cut) (h : split k c b = some cut)
    (hr : cut.rest = []) (hc : Canonical k c b) : pack k cut.stored = some b :=
  pack_split k c b cut h hr hc

/-- **Decoding what was re-encoded gives the same object again** (same consumed slice, same kept
    bytes), under the same canonicity condition. -/
theorem reencode_redecode (k : Framing.Kind) (c : Cfg) (b : Bytes) (cut : Cut) (h : split k c b = some cut)
    (hr : cut.rest = []) (hc : Canonical k c b) :
    ∃ p, pack k cut.stored = some p ∧ split k c p = some cut :=
  ⟨b, pack_split k c b cut h hr hc, h⟩

/-- FlowSpec with the RFC 8955 shift of 8 bits: the length framing round-trips for every size the
    encoder produces. Stated of `splitFlowWith 8`; `split .flow` reads its shift from the generated
    table (`flowShift`). -/
theorem flow_frame_roundtrip_rfc_shift (v rest : Bytes) (h : v.length < 4095) :
    ∃ f, flowFrame v = some f ∧ splitFlowWith 8 (f ++ rest) = some ⟨f, v, rest⟩ :=
  split_flowWith 8 v rest h rfl

/-- **FINDING (Flow), repaired in /repo by "fix: FlowSpec NLRI length field above 255": with a shift
    of 16 (`FLOW_LENGTH_EXTENDED_SHIFT` before that commit) every FlowSpec NLRI of 256 to 4094 bytes
    that ExaBGP encodes is refused by ExaBGP's decoder.** The model reads the shift from the generated
    table, so it follows the code; `corpus/C15/text-flow-big.json` keeps the case. -/
theorem flow_frame_refused_shift16 (v : Bytes) (h1 : 256 ≤ v.length) (h2 : v.length < 4095) :
    ∃ f, flowFrame v = some f ∧ splitFlowWith 16 f = none :=
  flow_shift_refuses 16 (by decide) v h1 h2

/-- **FINDING (VPLS): a VPLS NLRI followed by another NLRI is refused** (`len(data) != length + 2`):
    one MP_REACH can carry only one VPLS NLRI. -/
theorem vpls_second_nlri_refused (v rest : Bytes) (hv : v.length = 17) (hr : rest ≠ []) :
    split .vpls ⟨25, 65, false⟩ (be16 v.length ++ v ++ rest) = none :=
  split_vpls_followed v rest hv hr

/-- **Whatever VPLS NLRI the decoder accepts (also one longer than the 17 bytes it reads), what the
    object keeps is decoded again to the same kept bytes** (repaired by "fix: a VPLS NLRI keeps the
    bytes it can read back": before it the kept length was the received one and
    `00 12` + 17 bytes was refused). -/
theorem vpls_kept_redecodable (c : Cfg) (b : Bytes) (cut : Cut) (h : split .vpls c b = some cut) :
    split .vpls c cut.stored = some ⟨cut.stored, cut.stored, []⟩ := by
  obtain ⟨h17, hl, rfl⟩ := splitVpls_eq_some h
  have hx : ((b.drop 2).take 17).length = 17 := by
    simp only [List.length_take, List.length_drop]; omega
  have := split_vpls ((b.drop 2).take 17) hx
  rwa [hx] at this

/-- **FINDING (RTC): a prefix shorter than 96 bits still takes 13 bytes** — a /64 RTC prefix
    (9 bytes on the wire) followed by another NLRI swallows 4 bytes of its neighbour. -/
theorem rtc_short_prefix_overconsumes :
    (split .rtc ⟨1, 132, false⟩ ([64, 0, 0, 253, 232, 0, 2, 253, 232] ++ [0, 0, 0, 0, 0])).map (·.consumed.length)
      = some 13 := by decide +kernel

/-- BGP-LS-VPN (repaired by "fix: a BGP-LS-VPN NLRI keeps its route distinguisher"): a Node NLRI with
    its RD is taken whole and given back whole. Before, the RD was cut out of what `pack_nlri` returned. -/
theorem bgpls_vpn_keeps_rd :
    (split .type16Len16 ⟨16388, 72, false⟩ [0, 1, 0, 9, 1, 2, 3, 4, 5, 6, 7, 8, 9]).bind (fun cut => pack .type16Len16 cut.stored)
      = some [0, 1, 0, 9, 1, 2, 3, 4, 5, 6, 7, 8, 9] := by decide +kernel

/-- **Every registered family has a framing kind** (a newly registered decoder class without one
    breaks this obligation). -/
theorem registry_families_framed :
    ∀ r ∈ families, (kindOfClass r.2.2).isSome = true := by decide +kernel

/-- The family registry is the table the models were written against. -/
theorem registry_families_is_spec :
    families =
      [(1, 1, "INET"), (1, 2, "INET"), (1, 4, "Label"), (1, 5, "MVPN"), (1, 73, "SRPolicyNLRI"), (1, 85, "MUP"),
       (1, 128, "IPVPN"), (1, 132, "RTC"), (1, 133, "Flow"), (1, 134, "Flow"),
       (2, 1, "INET"), (2, 2, "INET"), (2, 4, "Label"), (2, 5, "MVPN"), (2, 73, "SRPolicyNLRI"), (2, 85, "MUP"),
       (2, 128, "IPVPN"), (2, 133, "Flow"), (2, 134, "Flow"),
       (25, 65, "VPLS"), (25, 70, "EVPN"), (16388, 71, "BGPLS"), (16388, 72, "BGPLS")] := rfl

/-- The attribute registry: (code, flags | EXTENDED_LENGTH, class). -/
theorem registry_attributes_is_spec :
    attributes =
      [(1, 80, "Origin"), (2, 80, "ASPath"), (3, 80, "NextHop"), (4, 144, "MED"), (5, 80, "LocalPreference"),
       (6, 80, "AtomicAggregate"), (7, 208, "Aggregator"), (8, 208, "Communities"), (9, 144, "OriginatorID"),
       (10, 144, "ClusterList"), (14, 144, "MPRNLRI"), (15, 144, "MPURNLRI"), (16, 208, "ExtendedCommunities"),
       (17, 208, "AS4Path"), (18, 208, "Aggregator4"), (22, 208, "PMSI"), (23, 208, "TunnelEncap"),
       (25, 208, "ExtendedCommunitiesIPv6"), (26, 144, "AIGP"), (29, 144, "LinkState"),
       (32, 208, "LargeCommunities"), (40, 208, "PrefixSid")] := rfl

/-- The route-type registries below the families (each shares its family's framing kind). -/
theorem registry_subtypes_is_spec :
    evpn.map (·.1) = [1, 2, 3, 4, 5] ∧ mvpn.map (·.1) = [5, 6, 7]
    ∧ mup.map (fun r => (r.1, r.2.1)) = [(1, 1), (1, 2), (1, 3), (1, 4)]
    ∧ bgplsCodes = [1, 2, 3, 4, 6] ∧ bgpls.map (·.1) = bgplsCodes
    ∧ pmsi.map (·.1) = [0, 6] ∧ prefixsid.map (·.1) = [1, 3, 5, 6]
    ∧ extended.length = 23 ∧ extended6.map (fun r => (r.1, r.2.1)) = [(0, 11), (0, 12)] := by decide +kernel

/-- The framing constants the decoders compare against (the FlowSpec shift is deliberately not
    pinned here: the model reads it from the generated table, and `frame_roundtrip` does not
    depend on it). -/
theorem framing_constants :
    pathInfoSize = 4 ∧ pathInfoLength = 4 ∧ rdSize = 8 ∧ labelSizeBits = 24 ∧ evpnHeaderSize = 2
    ∧ vplsPayloadSize = 17 ∧ rtcMinBits = 32 ∧ rtcMaxBits = 96 ∧ rtcFullLength = 13
    ∧ srPolicyV4Size = 12 ∧ srPolicyV6Size = 24
    ∧ flowCompactMax = 240 ∧ flowExtendedMax = 4095 ∧ flowExtendedValue = 240 ∧ flowExtendedMask = 240
    ∧ flowCompactLimit = 240 ∧ 4095 ≤ flowEncodeLimit ∧ flowEncodeLimit ≤ 4096
    ∧ flowLowerMask = 15
    ∧ rdSizes.filter (fun r => r.2.2 ≠ 0) = [(1, 128, 8), (2, 128, 8), (16388, 72, 8)] := by decide +kernel

-- a type-length framed NLRI (EVPN type 2, three payload bytes) followed by the start of a type 3 route, and one of each kind
example : split .typeLen8 ⟨25, 70, false⟩ ([2, 3, 1, 2, 3] ++ [3, 0]) = some ⟨[2, 3, 1, 2, 3], [2, 3, 1, 2, 3], [3, 0]⟩ := by decide +kernel
example : (Nlri.pfx (some [0, 0, 0, 7]) 24 [10, 0, 0]).ok ⟨1, 1, true⟩ := by simp [Nlri.ok]
example : split .prefixBits ⟨1, 1, true⟩ ([0, 0, 0, 7, 24, 10, 0, 0] ++ [8, 11])
    = some ⟨[0, 0, 0, 7, 24, 10, 0, 0], [0, 0, 0, 7, 24, 10, 0, 0], [8, 11]⟩ := by decide +kernel
example : (Nlri.bgpls 1 [9, 9, 9, 9, 9, 9, 9, 9, 5]).ok ⟨16388, 72, false⟩ := by simp [Nlri.ok]
example : (Nlri.srPolicy (List.replicate 12 1)).ok ⟨1, 73, false⟩ := by simp [Nlri.ok, srPolicyBits, srPolicyV4Size]
example : (Nlri.rtc 96 (List.replicate 12 1)).ok ⟨1, 132, false⟩ := by simp [Nlri.ok]
example : Canonical .flow ⟨1, 133, false⟩ [3, 1, 8, 10] := by simp [Canonical]; decide
example : (split .vpls ⟨25, 65, false⟩ ([0, 18] ++ List.replicate 18 7)).map (·.stored) = some ([0, 17] ++ List.replicate 17 7) := by decide +kernel
example : (split .flow ⟨1, 133, false⟩ [3, 1, 8, 10]).map (·.stored) = some [1, 8, 10] := by decide +kernel
example : kindOfFamily 25 70 = some .typeLen8 ∧ kindOfFamily 16388 72 = some .type16Len16 ∧ kindOfFamily 3 1 = none := by decide +kernel
-- ordinary routes: 10.0.0.0/24 with path-id 1 and 2
example : wf ⟨.inet, 1, 1, some [0, 0, 0, 1], [], none, 24, [10, 0, 0]⟩ = true
    ∧ index ⟨.inet, 1, 1, some [0, 0, 0, 1], [], none, 24, [10, 0, 0]⟩ ≠ index ⟨.inet, 1, 1, some [0, 0, 0, 2], [], none, 24, [10, 0, 0]⟩ := by decide +kernel
example : index f15a = [48, 50, 48, 49] ++ disabled ++ [72, 0, 1, 0, 2, 0, 3, 0, 4, 0] := by decide +kernel
example : index f15b = [48, 50, 48, 49] ++ pathWord ++ disa ++ [98, 108, 101, 100, 72, 0, 1, 0, 2, 0, 3, 0, 4, 0] := by decide +kernel

end Exa.Props.C15
