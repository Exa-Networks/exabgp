import ExaModel.Lemmas.Wire
import ExaModel.Lemmas.WireMerge
import ExaModel.Lemmas.WireCountTlv
import ExaModel.Lemmas.WireExaFind
import ExaModel.Generated.AttrTable
import ExaModel.Generated.FamilyTable
/-!
# C02 — Reported routes are exactly what the peer sent

Statement (properties.jsonl): for every well-formed UPDATE a peer can send under the negotiated
session parameters, the announce and withdraw sets, next hops and attribute values ExaBGP reports
on its JSON API and stores in its Adj-RIB-In are exactly those an RFC reference decoder extracts
from the same bytes: nothing dropped, invented, moved between announce and withdraw, or attributed
to another family or next hop (only unrecognised optional non-transitive attributes, which ExaBGP
does not relay, are left out). AS_PATH and AS4_PATH received from a 2-byte peer are merged per
RFC 6793 and End-of-RIB markers are recognised for the right family.

What is proved here is that the *oracle* of that comparison — the RFC reference decoder `M-Wire`
(`Exa.Wire`, written from the RFC layouts, not from ExaBGP) — is exact: it inverts the reference
encoder on every well-formed UPDATE (so the messages the harness feeds to ExaBGP mean what the
generator meant), it accounts for every byte of what it accepts, the canonical `Report` contains
exactly the routes of the three places an UPDATE can carry them, the RFC 6793 reconstruction keeps
what the RFC says, and End-of-RIB is recognised exactly for the RFC 4724 shapes. ExaBGP's own
decoder is tied to this oracle by the correspondence run (`harness/props/C02.py`), not by a model.
-/
namespace Exa.Props.C02
open Exa Exa.Wire

/-- **The reference decoder is exact (full statement, all inputs).** Every well-formed UPDATE —
    any withdrawn routes, any list of attributes in any order, with the Extended Length flag on
    short attributes or not, with the Partial bit where it is allowed, IPv4 NLRI, MP_REACH /
    MP_UNREACH of the IP families with or without ADD-PATH path ids, label stacks, the 0x800000
    withdraw label and route distinguishers, unknown attributes, 2- or 4-byte AS numbers — is decoded
    from its reference encoding to itself. -/
theorem wire_left_inverse (p : Params) (u : UpdateSem) (h : WFUpdate p u) :
    decodeUpdate p (encodeUpdate p u) = .ok u := decodeUpdate_encodeUpdate p u h

/-- The value codecs on their own (what `wire_left_inverse` uses for every attribute). -/
theorem wire_attr_left_inverse (p : Params) (a : Attr) (h : WFAttr p a) (rest : Bytes) :
    decAttr p (encAttr p a ++ rest) = .ok (a, rest) := decAttr_encAttr p a h rest

/-- The NLRI codec on its own, for every family M-Wire knows, announce and withdraw form. -/
theorem wire_nlri_left_inverse (afi safi : Nat) (ap wd : Bool) (n : Nlri) (h : WFNlri afi safi ap wd n)
    (rest : Bytes) : decNlri afi safi ap wd (encNlri safi wd n ++ rest) = .ok (n, rest) :=
  decNlri_encNlri afi safi ap wd n h rest

/-- **Every byte of an accepted message is accounted for.** An accepted body of octets (`WFBytes`) is
    exactly `len ++ W ++ len ++ A ++ N`; the withdrawn-routes walk ran over exactly `W`, the attribute
    walk over exactly `A`, the NLRI walk over exactly `N`, each to its last byte; and the reference
    encoding of what was extracted has the length of the input (the length only: the decoder ignores
    some bits, see `Lemmas/WireCount.lean`). -/
theorem decode_consumes_all (p : Params) (bs : Bytes) (hwf : WFBytes bs) (u : UpdateSem)
    (h : decodeUpdate p bs = .ok u) :
    (∃ W A N, bs = be16 W.length ++ (W ++ (be16 A.length ++ (A ++ N))) ∧
      decNlris 1 1 (p.ap 1 1) true W.length W = .ok u.withdrawn ∧
      decAttrs p A.length A = .ok u.attrs ∧
      decNlris 1 1 (p.ap 1 1) false N.length N = .ok u.nlri) ∧
    (encodeUpdate p u).length = bs.length := by
  have hr := (decodeUpdate_ok p bs u h).2.1
  exact ⟨decodeRaw_split p bs hwf u hr, decodeRaw_length p bs u hr⟩

/-- **RFC 6793 §4.2.3 and §6, on segments.** If AS_PATH counts fewer AS numbers than AS4_PATH, AS4_PATH is
    ignored. Otherwise the result is the leading part of AS_PATH that counts for the difference
    (`takeUnits`: whole segments, the last AS_SEQUENCE possibly cut, its AS numbers a prefix of
    AS_PATH's) followed by the AS_SET and AS_SEQUENCE segments of AS4_PATH (its confederation segments are
    discarded, §6), and it counts exactly as many AS numbers as AS_PATH did. -/
theorem merge_rfc6793 (as2 as4 : List Seg) :
    (pathCount as2 < pathCount as4 → merge6793 as2 as4 = as2) ∧
    (pathCount as4 ≤ pathCount as2 →
      merge6793 as2 as4 = takeUnits (pathCount as2 - pathCount as4) as2 ++ plainSegs as4 ∧
      pathCount (takeUnits (pathCount as2 - pathCount as4) as2) = pathCount as2 - pathCount as4 ∧
      flatAsns (takeUnits (pathCount as2 - pathCount as4) as2) <+: flatAsns as2 ∧
      pathCount (merge6793 as2 as4) = pathCount as2) := by
  constructor
  · intro h; simp [merge6793, h]
  · intro h
    have hn : ¬ pathCount as2 < pathCount as4 := by omega
    have hk := pathCount_takeUnits as2 (pathCount as2 - pathCount as4) (by omega)
    refine ⟨by simp [merge6793, hn], hk, flatAsns_takeUnits_prefix _ _, ?_⟩
    simp only [merge6793, hn, if_false, pathCount_append, hk, pathCount_plainSegs]
    omega

/-- No confederation segment of an AS4_PATH reaches the reported path (RFC 6793 §6): when AS4_PATH is
    used, the merged path ends in `plainSegs as4`, which holds AS_SET and AS_SEQUENCE segments only.
    (What stands in front of it is `takeUnits … as2`, by `merge_rfc6793`.) -/
theorem merge_discards_as4_confed (as2 as4 : List Seg) (h : pathCount as4 ≤ pathCount as2) :
    ∃ front, merge6793 as2 as4 = front ++ plainSegs as4 ∧ ∀ s ∈ plainSegs as4, s.1 = 1 ∨ s.1 = 2 := by
  refine ⟨takeUnits (pathCount as2 - pathCount as4) as2, ((merge_rfc6793 as2 as4).2 h).1, ?_⟩
  intro s hs
  have := (List.mem_filter.mp hs).2
  simpa using this

/-- An empty AS4_PATH changes nothing (the case of finding F16). -/
theorem merge_empty_as4 (as2 : List Seg) : merge6793 as2 [] = as2 := by
  simp [merge6793, plainSegs, pathCount, takeUnits_all as2 (pathCount as2) (Nat.le_refl _)]

/-- **End-of-RIB (RFC 4724 §2) is recognised exactly** for: the UPDATE with no withdrawn routes,
    no attribute and no NLRI (IPv4 unicast), and the UPDATE whose only content is one
    MP_UNREACH_NLRI attribute without routes (that attribute's family). -/
theorem eor_iff (u : UpdateSem) (f : Nat × Nat) :
    eorFamily u = some f ↔
      u.withdrawn = [] ∧ u.nlri = [] ∧
        ((u.attrs = [] ∧ f = (1, 1)) ∨
         (∃ fl, u.attrs = [⟨fl, .mpUnreach f.1 f.2 []⟩]) ∨
         (∃ fl, u.attrs = [⟨fl, .mpUnreachRaw f.1 f.2 []⟩])) := by
  unfold eorFamily
  constructor
  · intro h
    split at h
    · rename_i he
      simp only [Bool.and_eq_true, List.isEmpty_iff] at he
      refine ⟨he.1, he.2, ?_⟩
      split at h
      · rename_i ha
        exact Or.inl ⟨ha, (Option.some.inj h).symm⟩
      · rename_i a ha
        obtain ⟨fl, v⟩ := a
        split at h
        · rename_i afi safi hv
          cases h; cases hv; exact Or.inr (Or.inl ⟨fl, ha⟩)
        · rename_i afi safi hv
          cases h; cases hv; exact Or.inr (Or.inr ⟨fl, ha⟩)
        · cases h
      · cases h
    · cases h
  · rintro ⟨hw, hn, h⟩
    rw [hw, hn]
    rcases h with ⟨ha, rfl⟩ | ⟨fl, ha⟩ | ⟨fl, ha⟩ <;> rw [ha] <;> rfl

/-- **Nothing invented, dropped or moved (announce side of the Report).** A route is reported as
    announced iff it is in the NLRI field (family IPv4 unicast, next hop = the NEXT_HOP attribute)
    or in an MP_REACH_NLRI attribute (that attribute's family and next hop). -/
theorem report_announce_iff (p : Params) (u : UpdateSem) (x : Nat × Nat × Bytes × Nlri) :
    x ∈ (report p u).announce ↔
      (∃ n ∈ u.nlri, x = (1, 1, (match findNextHop u.attrs with | some ip => be32 ip | none => []), n)) ∨
      (∃ a ∈ u.attrs, ∃ afi safi nh ns, a.val = .mpReach afi safi nh ns ∧
        ∃ n ∈ ns, x = (afi, safi, nhAddr safi nh, n)) := by
  simp only [report, List.mem_append, List.mem_map]
  exact or_congr (exists_congr fun _ => and_congr_right fun _ => eq_comm) (mem_mpAnnounces u.attrs x)

/-- **The withdraw side.** A route is reported as withdrawn iff it is in the WITHDRAWN ROUTES field
    (IPv4 unicast) or in an MP_UNREACH_NLRI attribute (that attribute's family); the label field of
    a withdrawal carries no information (RFC 8277 §2.4) and is erased. -/
theorem report_withdraw_iff (p : Params) (u : UpdateSem) (x : Nat × Nat × Nlri) :
    x ∈ (report p u).withdraw ↔
      (∃ n ∈ u.withdrawn, x = (1, 1, eraseLabels n)) ∨
      (∃ a ∈ u.attrs, ∃ afi safi ns, a.val = .mpUnreach afi safi ns ∧
        ∃ n ∈ ns, x = (afi, safi, eraseLabels n)) := by
  simp only [report, List.mem_append, List.mem_map]
  exact or_congr (exists_congr fun _ => and_congr_right fun _ => eq_comm) (mem_mpWithdraws u.attrs x)

/-- **Translator obligation (attribute registry).** For every type code M-Wire recognises, ExaBGP
    registers a decoder under exactly the RFC flag class (optional / transitive bits) of
    `specTable`; editing a `FLAG` or dropping a registration in /repo breaks this. -/
theorem attr_table_matches_rfc :
    ∀ r ∈ specTable, ∃ row ∈ Exa.Generated.AttrTable.attrTable,
      row.id = r.1 ∧ row.flag = b2n r.2.1 128 + b2n r.2.2 64 := by decide

/-- **Translator obligation (NLRI registry).** The eight families M-Wire decodes structurally have a
    registered decoder in ExaBGP, the RD size of `Family.size` is the RFC one, and `SAFI.has_label`
    / `has_rd` agree with the RFC layouts used here. -/
theorem family_table_matches_rfc :
    ∀ afi ∈ [1, 2], ∀ safi ∈ [1, 2, 4, 128],
      (afi, safi) ∈ Exa.Generated.FamilyTable.registeredNlri ∧
      (∃ e ∈ Exa.Generated.FamilyTable.familySize, e.1 = afi ∧ e.2.1 = safi ∧ e.2.2.2 = rdBits safi / 8) ∧
      (Exa.Generated.FamilyTable.safiHasLabel.contains safi = hasLabel safi) ∧
      (Exa.Generated.FamilyTable.safiHasRd.contains safi = hasRd safi) := by decide

/-! ### AIGP follows the session (RFC 7311 §3.3)

M-Wire carries AIGP (type 26, optional non-transitive) as the bytes it is. Whether it belongs to the
report is a parameter of the session: `Params.aigp`. The harness builds sessions of both kinds from
real OPENs (`capability aigp`) and compares what ExaBGP reports for type 26 with this. -/

open Exa.WireExa in
/-- AIGP_SESSION disabled: whatever the message carries under type 26 with the flags of RFC 7311
    (optional, non-transitive), nothing is reported for type 26. -/
theorem aigp_absent_when_session_disabled (p : Params) (u : UpdateSem) (hp : p.aigp = false)
    (h : ∀ a ∈ u.attrs, a.code = 26 → a.flags.trans = false ∧ ∃ raw, a.val = .unknown 26 raw) :
    reportAttr p u 26 = none := by
  rw [reportAttr_eq]
  apply findSome_none_of_all
  intro a ha
  by_cases hc : a.code = 26
  · obtain ⟨ht, raw, hv⟩ := h a ha hc
    simp [repAt, reportVal, hv, ht, hp]
  · exact repAt_none p u.attrs 26 a hc

open Exa.WireExa in
/-- AIGP_SESSION enabled: the first attribute of type 26 is reported, with exactly its bytes. -/
theorem aigp_reported_when_session_enabled (p : Params) (u : UpdateSem) (hp : p.aigp = true)
    (pre post : List Attr) (a : Attr) (raw : Bytes) (hu : u.attrs = pre ++ a :: post)
    (hpre : ∀ x ∈ pre, x.code ≠ 26) (hv : a.val = .unknown 26 raw) :
    reportAttr p u 26 = some (.unknown 26 raw) := by
  rw [reportAttr_eq, hu, findSome_append,
    findSome_none_of_all pre _ (fun x hx => repAt_none p _ 26 x (hpre x hx))]
  simp [repAt, reportVal, hv, hp, aigpCode, AttrVal.code]

/-- Nothing else of the report depends on the AIGP parameter: two sessions that differ in it only
    report the same routes and the same End-of-RIB, and `reportVal` answers the same for every
    attribute whose type is not 26. -/
theorem aigp_changes_type_26_only (p : Params) (u : UpdateSem) (b : Bool) :
    (report { p with aigp := b } u).announce = (report p u).announce ∧
    (report { p with aigp := b } u).withdraw = (report p u).withdraw ∧
    (report { p with aigp := b } u).eor = (report p u).eor ∧
    ∀ a ∈ u.attrs, a.code ≠ 26 → reportVal { p with aigp := b } u.attrs a = reportVal p u.attrs a := by
  refine ⟨rfl, rfl, rfl, ?_⟩
  intro a _ hc
  unfold reportVal
  cases hv : a.val with
  | unknown c raw =>
    have : (c == aigpCode) = false := by rw [Attr.code, hv] at hc; exact beq_false_of_ne hc
    simp only [this, Bool.false_and]
  | _ => rfl

/-! ## The codec, the merge and the report computed on non-trivial inputs -/

/-- A 2-byte session with ADD-PATH for VPN-IPv4; `uEx` below: a labelled VPN route with path id 7,
    labels 100/200, an RD, AS_TRANS in AS_PATH with the true path in AS4_PATH, the extended-length flag
    on the 1-byte ORIGIN, an unknown transitive attribute with the Partial bit, plus a labelled IPv6
    withdrawal (0x800000 form), an IPv4 withdrawn route and an IPv4 NLRI. -/
def pEx : Params := { asn4 := false, addpath := [(1, 128)], extnh := [], msgSize := 4096 }
def uEx : UpdateSem :=
  { withdrawn := [{ pathId := none, labels := [], rd := [], plen := 8, pfx := [10] }],
    attrs :=
      [ ⟨⟨false, true, false, true⟩, .origin 0⟩,
        ⟨⟨false, true, false, false⟩, .asPath [(2, [65002, 23456, 3])]⟩,
        ⟨⟨false, true, false, false⟩, .nextHop 0x0A000001⟩,
        ⟨⟨true, false, false, false⟩,
          .mpReach 1 128 [0, 0, 0, 0, 0, 0, 0, 0, 10, 0, 0, 1]
            [{ pathId := some 7, labels := [100, 200], rd := [0, 0, 253, 232, 0, 0, 0, 1], plen := 24, pfx := [10, 0, 0] }]⟩,
        ⟨⟨true, true, false, false⟩, .as4Path [(2, [70000, 3])]⟩,
        ⟨⟨true, true, true, false⟩, .unknown 99 [1, 2, 3]⟩,
        ⟨⟨true, false, false, true⟩,
          .mpUnreach 2 4 [{ pathId := none, labels := [], rd := [], plen := 64, pfx := [32, 1, 13, 184, 0, 0, 0, 0] }]⟩ ],
    nlri := [{ pathId := none, labels := [], rd := [], plen := 24, pfx := [192, 168, 1] }] }

example : decodeUpdate pEx (encodeUpdate pEx uEx) = .ok uEx := by decide +kernel
example : (encodeUpdate pEx uEx).length = 113 := by decide
example : semErr pEx uEx = none := by decide
example : ∀ a ∈ uEx.attrs, flagErr a.flags a.val.code = none := by decide
/-- the canonical RFC 6793 case (finding F20): AS_PATH [65002, AS_TRANS, 3] + AS4_PATH [70000, 3] -/
example : merge6793 [(2, [65002, 23456, 3])] [(2, [70000, 3])] = [(2, [65002]), (2, [70000, 3])] := by decide
example : merge6793 [(3, [64512, 23456]), (2, [23456, 3])] [(3, [64512, 70001]), (2, [70000, 3])] =
    [(3, [64512, 23456]), (2, [70000, 3])] := by decide
example : (report pEx uEx).attrs.head? = some (.origin 0) := by decide
example : ((report pEx uEx).attrs.filterMap (fun v => match v with | .asPath s => some s | _ => none)) =
    [[(2, [65002]), (2, [70000, 3])]] := by decide
example : Exa.WireExa.reportAttr { pEx with aigp := true } { uEx with attrs := uEx.attrs ++ [⟨⟨true, false, false, false⟩, .unknown 26 [1, 0, 11, 0, 0, 0, 0, 0, 0, 0, 100]⟩] } 26
    = some (.unknown 26 [1, 0, 11, 0, 0, 0, 0, 0, 0, 0, 100]) := by decide
example : Exa.WireExa.reportAttr pEx { uEx with attrs := uEx.attrs ++ [⟨⟨true, false, false, false⟩, .unknown 26 [1, 0, 11, 0, 0, 0, 0, 0, 0, 0, 100]⟩] } 26 = none := by decide
example : (report pEx uEx).announce.length = 2 ∧ (report pEx uEx).withdraw.length = 2 := by decide
/-- a set counts for one, a confederation segment for none, the cut falls inside a sequence -/
example : merge6793 [(3, [64512]), (2, [1, 2, 3]), (1, [5, 6]), (2, [9])] [(2, [70000, 9])] =
    [(3, [64512]), (2, [1, 2, 3]), (2, [70000, 9])] := by decide
/-- AS_PATH shorter than AS4_PATH: AS4_PATH ignored -/
example : merge6793 [(2, [1])] [(2, [70000, 9])] = [(2, [1])] := by decide
/-- End-of-RIB: the 4-byte IPv4 form and the 11-byte MP_UNREACH form, from the wire -/
example : (decodeUpdate pEx [0, 0, 0, 0]).toOption.map eorFamily = some (some (1, 1)) := by decide
example : (decodeUpdate pEx [0, 0, 0, 7, 0x90, 15, 0, 3, 0, 2, 1]).toOption.map eorFamily = some (some (2, 1)) := by decide
/-- an UPDATE that withdraws one route is not an End-of-RIB -/
example : (decodeUpdate pEx [0, 0, 0, 8, 0x90, 15, 0, 4, 0, 2, 1, 0]).toOption.map eorFamily = some none := by decide
/-- errors: attribute length overrunning the block, flags in conflict, ORIGIN 9, duplicate attribute -/
example : decodeUpdate pEx [0, 0, 0, 4, 0x40, 1, 2, 0] = .error (3, 1) := by decide
example : decodeUpdate pEx [0, 0, 0, 4, 0x80, 1, 1, 0] = .error (3, 4) := by decide
example : decodeUpdate pEx [0, 0, 0, 4, 0x40, 1, 1, 9] = .error (3, 6) := by decide
example : decodeUpdate pEx [0, 0, 0, 8, 0x40, 1, 1, 0, 0x40, 1, 1, 0] = .error (3, 1) := by decide

end Exa.Props.C02
