import ExaModel.Lemmas.RibSess
/-!
# C04 — Adj-RIB-Out converges

Statement (properties.jsonl): for any sequence of announce, withdraw, watchdog,
route-refresh/flush and clear operations arriving at any time relative to message
transmission, once the outgoing queue has drained the table a peer obtains by applying, in
order, every UPDATE sent equals the table reported as Adj-RIB-Out.  No stale announcement
survives a later announce or withdraw of the same prefix, no withdrawn route is resurrected.

Model: `Exa.Rib` (M-Rib).  `Sess.run` executes any list of operations, `start`/`next` being the
generator steps of `Peer._send_route_updates` interleaved arbitrarily with the RIB operations;
`Sess.drain` consumes what is in flight and one more generator; `applyEvs` is the peer.
API `clear adj-rib out` is `withdrawAll`.  Hypotheses that remain and are part of the
statement: adj-rib-out is kept (`cacheOn = true`, `Sess.init true`), `paths_limit` not in force.
-/
namespace Exa.Props.C04
open Exa Exa.Rib

/-- **C04 (full statement).** From session start, after any operations in any interleaving
    with the transmission steps and a final drain, the peer's table is the reported
    Adj-RIB-Out — for every NLRI. -/
theorem c04_converges (fams : List Nat) (ops : List Op) (hops : ∀ op ∈ ops, op.isUp = true) (n : Nat) :
    let r := (Sess.init true fams).run ops
    AList.lookup n (applyEvs [] (r.2 ++ r.1.drain.2)) = r.1.drain.1.rib.cacheView n :=
  (good_init fams).converges hops n

/-- The same from any state satisfying the invariant (e.g. right after re-establishment, see C11),
    with whatever the peer already holds. -/
theorem c04_converges_from (s : Sess) (t : Table) (g : Good s t) (ops : List Op)
    (hops : ∀ op ∈ ops, op.isUp = true) (n : Nat) :
    let r := s.run ops
    AList.lookup n (applyEvs t (r.2 ++ r.1.drain.2)) = r.1.drain.1.rib.cacheView n :=
  g.converges hops n

/-- **No stale announcement / no resurrection.** If the last operation is the withdraw of a
    prefix, the peer does not hold that prefix after the drain — whatever was queued, in flight
    or already sent before. -/
theorem c04_withdrawn_stays_withdrawn (fams : List Nat) (ops : List Op)
    (hops : ∀ op ∈ ops, op.isUp = true) (n f : Nat) :
    let r := (Sess.init true fams).run (ops ++ [Op.del n f])
    AList.lookup n (applyEvs [] (r.2 ++ r.1.drain.2)) = none := by
  intro r
  have g := good_run (Sess.init true fams) [] ops hops (good_init fams)
  rw [(good_init fams).run_drained (forall_mem_concat hops rfl) n, run_append]
  exact (del_cacheView _ n f g.cacheOn n).trans (if_pos rfl)

/-- **The last announce wins.** If the last operation is the forced announce of a route, the
    peer holds its prefix with exactly its attributes and next hop after the drain. -/
theorem c04_last_announce_wins (fams : List Nat) (ops : List Op)
    (hops : ∀ op ∈ ops, op.isUp = true) (r : Route) :
    let x := (Sess.init true fams).run (ops ++ [Op.add r true])
    AList.lookup r.nlri (applyEvs [] (x.2 ++ x.1.drain.2)) = some (r.attr, r.nh) := by
  intro x
  have g := good_run (Sess.init true fams) [] ops hops (good_init fams)
  rw [(good_init fams).run_drained (forall_mem_concat hops rfl) r.nlri, run_append]
  exact (add_cacheView _ r true g.cacheOn r.nlri).trans (if_pos rfl)

/-! Non-vacuity: a concrete history with a re-announce under other attributes inside one flush
    window (the F1 shape), a withdraw racing a partially consumed generator and a refresh. -/
def rt (n f a h : Nat) : Route := { nlri := n, fam := f, attr := a, nh := h }

def demoOps : List Op :=
  [ .add (rt 1 1 7 1) false, .add (rt 1 1 8 1) false, .add (rt 1 1 7 1) false,
    .add (rt 2 1 7 1) false, .start, .next, .del 2 1, .resend true none, .add (rt 3 2 9 2) false, .next ]

example : ∀ op ∈ demoOps, op.isUp = true := by decide
example : ((Sess.init true [1, 2]).run demoOps).1.drain.1.rib.cacheView 1 = some (7, 1) := by decide +kernel
example : AList.lookup 1 (applyEvs [] (((Sess.init true [1, 2]).run demoOps).2
    ++ ((Sess.init true [1, 2]).run demoOps).1.drain.2)) = some (7, 1) := by decide +kernel
example : AList.lookup 2 (applyEvs [] (((Sess.init true [1, 2]).run demoOps).2
    ++ ((Sess.init true [1, 2]).run demoOps).1.drain.2)) = none := by decide +kernel

/-- The F1 shape: `A/x, A/y, A/x` in one window sends `A/x` only (the
    entry under `y` would have been sent after it and is dropped). -/
example : ((Sess.init true [1]).run [.add (rt 1 1 7 1) false, .add (rt 1 1 8 1) false,
    .add (rt 1 1 7 1) false]).1.drain.2 = [Ev.ann (rt 1 1 7 1)] := by decide
/-- …whereas `A/x, A/y` sends both, in that order (behaviour pinned by the repository's tests). -/
example : ((Sess.init true [1]).run [.add (rt 1 1 7 1) false, .add (rt 1 1 8 1) false]).1.drain.2
    = [Ev.ann (rt 1 1 7 1), Ev.ann (rt 1 1 8 1)] := by decide
/-- The F2 shape: `A/x, A/y, withdraw A` announces nothing (the withdraw itself is not put on the
    wire by the first generator of a session: the peer's table is still empty). -/
example : ((Sess.init true [1]).run [.add (rt 1 1 7 1) false, .add (rt 1 1 8 1) false,
    .del 1 1]).1.drain.2 = [] := by decide

theorem flushed_not_pending (r : Rib) : r.flushed.pending = false := rfl

theorem drain_quiet (s : Sess) : s.drain.1.inflight = none ∧ s.drain.1.rib.pending = false :=
  drain_idle s

/-- **Drained means drained.** Once the outgoing queue has drained, ExaBGP puts nothing more on
    the wire until a new operation arrives: a second drain — and any number of further generator
    steps (`start`, `next`) — sends nothing and leaves the reported Adj-RIB-Out as it is. The
    converged table of `c04_converges` is therefore final, not a point the stream passes through. -/
theorem c04_drained_is_silent (s : Sess) :
    s.drain.1.drain.2 = [] ∧ s.drain.1.drain.1.rib = s.drain.1.rib := by
  rw [idle_drain (drain_quiet s).1 (drain_quiet s).2]
  exact ⟨rfl, rfl⟩

/-- …and so do any further generator steps. -/
theorem c04_drained_steps_silent (s : Sess) (ops : List Op)
    (hops : ∀ op ∈ ops, op = .start ∨ op = .next) :
    (s.drain.1.run ops).2 = [] ∧ (s.drain.1.run ops).1.rib = s.drain.1.rib := by
  rw [idle_run (drain_quiet s).1 (drain_quiet s).2 hops]
  exact ⟨rfl, rfl⟩

/-- non-vacuity: an announce queued at session start is sent by the first drain, nothing by the second -/
example : ((Sess.init true [1]).run [.add { nlri := 7, fam := 1, attr := 3, nh := 9 } false]).1.drain.2
    = [Ev.ann { nlri := 7, fam := 1, attr := 3, nh := 9 }] := by decide

end Exa.Props.C04
