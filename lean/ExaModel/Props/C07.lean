import ExaModel.Lemmas.OpenCodecFrame
import ExaModel.Lemmas.NegoWf
import ExaModel.Generated.CapTable
import ExaModel.Lemmas.NegoPy
/-!
# C07 — negotiated session parameters are the RFC function of the two OPENs

Statement (properties.jsonl): for every pair of OPEN messages (ours generated from any neighbor
configuration, the peer arbitrary), the parameters in force for the session — address families,
4-byte AS use and both true AS numbers, ADD-PATH send/receive per family, extended next hop,
route-refresh flavour, maximum message size, hold time — are exactly the RFC-defined function of
the two capability sets (intersection for families, both-sides for options, minimum for hold time,
ADD-PATH send iff we send and they receive).  The OPEN ExaBGP sends advertises exactly what the
configuration enables and survives encode/decode unchanged, including when the optional parameters
exceed 255 bytes (RFC 9072); peer OPENs the RFCs require to be refused are refused with the OPEN
error subcode for that fault.

Models: `Exa.Open` — M-OpenCodec (`encodeOpenG`/`encodeOpen`, `decodeOpen`, `capSet`) and M-Nego
(`ourOpen`, `negotiate`, `validateOpen`; spec `rfcNegotiate`, `rfcRefusals`).  `negotiate` is
`Negotiated._negotiate` as the code computes it; the theorems below quantify over ALL pairs of
OPEN messages (`o`, `t` arbitrary `OpenMsg`: any capabilities in any order with any repetition,
any fixed fields) and state every parameter on the raw capability lists.

Strength: every clause is proved in full (F4 — local AS and the internal-peer identifier check
read from the 2-octet field — and the 2/0 answer to an unrecognised optional parameter were
repaired in /repo; the witnesses are kept below as examples of the repaired behaviour).
Our OPEN: `advertises_exactly_config` (negotiated views) and `advertises_every_capability` (every
capability `Capabilities.new` emits: advertised iff enabled, with exactly the configured value);
`cfgOK` is the closed-form class of configurations (`cfgOK_wf`: each has an OPEN with a wire form,
`our_open_roundtrip`: it survives encode/decode in either format); host/domain names longer than
64 octets (accepted by the grammar up to 255) are advertised cut to 64 — stated, not hidden.
ADD-PATH octets outside 0..3 are read by the code as a bit mask (RFC 7911: SHOULD be ignored):
`addpath_send_iff`/`addpath_receive_iff` state the bit-mask behaviour for all octets, the `_rfc`
forms the RFC reading under `validSR`; `addpath_octet_5_deviation` is the witness.
-/
namespace Exa.Props.C07
open Exa Exa.Open

/-- **Families = intersection.** A family is negotiated iff both OPENs carry its MP capability
    (whatever the order, grouping or repetition of the capabilities). -/
theorem families_inter (o t : OpenMsg) (f : Family) :
    f ∈ (negotiate o t).families ↔ Cap.mp f.1 f.2 ∈ o.caps ∧ Cap.mp f.1 f.2 ∈ t.caps :=
  negotiate_families_mem o t f

/-- A negotiated family is listed once. -/
theorem families_nodup (o t : OpenMsg) : (negotiate o t).families.Nodup := by
  rw [negotiate_families_eq]
  exact (capSet_mp_nodup t.caps).sublist List.filter_sublist

/-- **4-octet AS numbers are used iff both sides advertise the capability.** -/
theorem asn4_both (o t : OpenMsg) :
    (negotiate o t).asn4 = true ↔ (∃ a, Cap.asn4 a ∈ o.caps) ∧ (∃ b, Cap.asn4 b ∈ t.caps) := by
  rw [negotiate_asn4, Bool.and_eq_true, asn4Of_isSome, asn4Of_isSome]

/-- **True peer AS.** For a peer whose My-AS field is what RFC 6793 §4.1 prescribes (its AS, or
    AS_TRANS when that does not fit), the peer AS in force is the RFC one: the number in its ASN4
    capability when both sides are 4-octet speakers, the field otherwise. -/
theorem true_as_peer (o t : OpenMsg) (h : consistentAs t) :
    (negotiate o t).peerAs = (rfcNegotiate o t).peerAs :=
  peerAs_eq_rfc o t h

/-- In particular AS_TRANS on the wire is replaced by the capability's number. -/
theorem true_as_peer_trans (o t : OpenMsg) (a b : Nat) (ho : asn4Of o.caps = some b)
    (ht : asn4Of t.caps = some a) (hf : t.myAs = asTrans) : (negotiate o t).peerAs = a := by
  rw [negotiate_peerAs]; simp [ho, ht, hf]

/-- **True local AS.** The local AS in force is the configured one whenever our OPEN carries it:
    ASN4 enabled (any AS number), or a number that fits the 2-octet field. -/
theorem true_as_local (cfg : Cfg) (t : OpenMsg) (h : cfg.asn4 = true ∨ cfg.localAs ≤ 65535) :
    (negotiate (ourOpen cfg) t).localAs = cfg.localAs := by
  rw [negotiate_localAs, show (ourOpen cfg).caps = ourCaps cfg from rfl, ourCaps_asn4Of]
  rcases h with h | h
  · rw [if_pos h]; rfl
  · cases cfg.asn4
    · exact if_neg (Nat.not_lt.2 h)
    · rfl

/-- The local AS in force is the RFC one, for every pair of OPENs. -/
theorem true_as_local_rfc (o t : OpenMsg) : (negotiate o t).localAs = (rfcNegotiate o t).localAs := by
  rw [negotiate_localAs]; rfl

/-- **ADD-PATH send ⇔ we send ∧ they receive**, on the Send/Receive octet in force on each side
    (the last entry for the family over all ADD-PATH capabilities of that OPEN), the octets read as
    the code reads them (bit 2 = send, bit 1 = receive). Holds for every octet value. -/
theorem addpath_send_iff (o t : OpenMsg) (f : Family) :
    (negotiate o t).send f = true ↔ sendBit (srOf o.caps f) = true ∧ recvBit (srOf t.caps f) = true := by
  rw [negotiate_send, Bool.and_eq_true]

/-- dual: we accept path identifiers on `f` ⇔ we receive ∧ they send. -/
theorem addpath_receive_iff (o t : OpenMsg) (f : Family) :
    (negotiate o t).receive f = true ↔ recvBit (srOf o.caps f) = true ∧ sendBit (srOf t.caps f) = true := by
  rw [negotiate_receive, Bool.and_eq_true]

/-- With the octets RFC 7911 defines (1 receive, 2 send, 3 both; 0 for nothing) this is exactly
    the RFC function, and the families it holds for are those of `rfcNegotiate`. -/
theorem addpath_send_rfc (o t : OpenMsg) (ho : validSR o.caps) (ht : validSR t.caps) (f : Family) :
    (negotiate o t).send f = true ↔ f ∈ (rfcNegotiate o t).apSend := by
  rw [addpath_send_iff, rfc_apSend_mem, sendBit_eq_rfc _ (srOf_le _ f ho), recvBit_eq_rfc _ (srOf_le _ f ht)]

theorem addpath_receive_rfc (o t : OpenMsg) (ho : validSR o.caps) (ht : validSR t.caps) (f : Family) :
    (negotiate o t).receive f = true ↔ f ∈ (rfcNegotiate o t).apRecv := by
  rw [addpath_receive_iff, rfc_apRecv_mem, recvBit_eq_rfc _ (srOf_le _ f ho), sendBit_eq_rfc _ (srOf_le _ f ht)]

/-- **Extended next hop = intersection** of the (AFI, SAFI, next-hop AFI) triples advertised. -/
theorem extnh_inter (o t : OpenMsg) (x : Triple) :
    x ∈ (negotiate o t).nexthop ↔
      (∃ es, Cap.nexthop es ∈ o.caps ∧ x ∈ es) ∧ (∃ es, Cap.nexthop es ∈ t.caps ∧ x ∈ es) := by
  rw [negotiate_nexthop_mem, mem_nexthopOf, mem_nexthopOf]

/-- **Route-refresh flavour**: enhanced iff both advertise Enhanced Route Refresh, else normal iff
    both advertise Route Refresh (code 2), else absent. -/
theorem refresh_flavour (o t : OpenMsg) :
    (negotiate o t).refresh =
      if Cap.enhanced ∈ o.caps ∧ Cap.enhanced ∈ t.caps then .enhanced
      else if Cap.refresh ∈ o.caps ∧ Cap.refresh ∈ t.caps then .normal else .absent := by
  rw [negotiate_refresh]; simp

/-- **Maximum message size**: 65535 iff both advertise Extended Message, else 4096. -/
theorem msgsize (o t : OpenMsg) :
    (negotiate o t).msgSize = if Cap.extMsg ∈ o.caps ∧ Cap.extMsg ∈ t.caps then 65535 else 4096 := by
  rw [negotiate_msgSize]; simp

/-- **Hold time = minimum** of the two Hold Time fields. -/
theorem hold_min (o t : OpenMsg) : (negotiate o t).hold = min o.hold t.hold := rfl

/-- **All parameters together.** For a peer with RFC-defined octets (`validSR`, `consistentAs`) and
    our OPEN `o` built with RFC-defined ADD-PATH octets, every parameter of `negotiate` equals the
    one of the independent specification `rfcNegotiate`. -/
theorem negotiate_is_rfc (o t : OpenMsg) (ho : validSR o.caps) (ht : validSR t.caps)
    (hc : consistentAs t) :
    let n := negotiate o t
    let r := rfcNegotiate o t
    n.hold = r.hold ∧ n.asn4 = r.asn4 ∧ n.localAs = r.localAs ∧ n.peerAs = r.peerAs
      ∧ (∀ f, f ∈ n.families ↔ f ∈ r.families) ∧ (∀ x, x ∈ n.nexthop ↔ x ∈ r.nexthop)
      ∧ (∀ f, n.send f = true ↔ f ∈ r.apSend) ∧ (∀ f, n.receive f = true ↔ f ∈ r.apRecv)
      ∧ n.refresh = r.refresh ∧ n.msgSize = r.msgSize := by
  refine ⟨?_, ?_, ?_, peerAs_eq_rfc o t hc, ?_, ?_, addpath_send_rfc o t ho ht, addpath_receive_rfc o t ho ht, ?_, ?_⟩
  · simp only [negotiate_hold, rfcNegotiate, Nat.min_def]
  · simp only [negotiate_asn4, rfcNegotiate]
  · exact true_as_local_rfc o t
  · intro f; rw [negotiate_families_mem, rfc_families_mem]
  · intro x; rw [negotiate_nexthop_mem, rfc_nexthop_mem]
  · rw [negotiate_refresh]; rfl
  · rw [negotiate_msgSize]; rfl

/-- **Round trip, every layout, both formats.** For every version-4 OPEN whose fields fit the wire
    (`wfFixed`, `wfGroups`): whatever the grouping `gs` of the capabilities into Capabilities
    parameters and in the RFC 4271 one-octet format (`ext = false`, parameter block up to 255
    octets) as in the RFC 9072 extended format (`ext = true`, up to 65535 octets), decoding the
    reference encoding gives the fixed fields and the capabilities back, in order. -/
theorem open_roundtrip_layout (ext : Bool) (myAs hold bgpId : Nat) (gs : List (List Cap))
    (hf : wfFixed myAs hold bgpId = true) (hg : wfGroups ext gs = true) :
    decodeOpen (encodeOpenG ext 4 myAs hold bgpId gs)
      = .ok { version := 4, myAs := myAs, hold := hold, bgpId := bgpId, caps := gs.flatten } :=
  decodeOpen_encG ext myAs hold bgpId gs hf hg

/-- **Round trip in the layout ExaBGP emits** (one capability per parameter; RFC 9072 format as soon
    as the one-octet form of the parameters is not shorter than 255 octets — the switch point of
    `pack_capabilities`), for every well-formed OPEN, below and above the switch. -/
theorem open_roundtrip (o : OpenMsg) (h : wfOpen o = true) : decodeOpen (encodeOpen o) = .ok o :=
  decodeOpen_encode o h

/-- **Every configuration in the closed-form class `cfgOK` has an OPEN with a wire form.** `cfgOK`
    (decidable, `Model/Nego.lean`) asks: local AS < 2³², hold time < 2¹⁶, identifier < 2³², every
    family AFI < 2¹⁶ / SAFI < 2⁸ and at most 62 families, ADD-PATH direction an octet, paths-limit
    values < 2¹⁶ (at most 50 of them), host/domain names ASCII, software string valid UTF-8 of at most
    252 octets.  Nothing else: every capability then fits one parameter of either format and the
    whole block stays below 65536 octets (at most `families + 15` capabilities of ≤ 258 octets). -/
theorem cfgOK_wf (cfg : Cfg) (h : cfgOK cfg = true) : wfOpen (ourOpen cfg) = true :=
  Open.cfgOK_wf cfg h

/-- **The OPEN we send survives encode/decode unchanged**, for every configuration in `cfgOK`,
    whatever its size — one-octet form below 255 octets of parameters, RFC 9072 form from 255 on
    (`demoBig`: 40 families, 374 octets). The harness checks `cfgOK` on every configuration the real
    parser / `NeighborSettings.validate` accepts. -/
theorem our_open_roundtrip (cfg : Cfg) (h : cfgOK cfg = true) :
    decodeOpen (encodeOpen (ourOpen cfg)) = .ok (ourOpen cfg) :=
  decodeOpen_encode _ (Open.cfgOK_wf cfg h)

/-- **The OPEN we send advertises exactly what the configuration enables** — the views the session
    parameters are computed from: fixed fields; MP families = configured families; ASN4 = the real
    local AS iff enabled; ADD-PATH octet of a family = the configured direction on the configured
    ADD-PATH families (of those the implementation supports), 0 elsewhere; extended next hop =
    configured ∩ supported; (enhanced) route refresh and extended message iff enabled. -/
theorem advertises_exactly_config (cfg : Cfg) :
    (ourOpen cfg).version = 4 ∧ (ourOpen cfg).myAs = Open.trans cfg.localAs ∧ (ourOpen cfg).hold = cfg.hold
      ∧ (ourOpen cfg).bgpId = cfg.routerId
      ∧ (∀ a s, Cap.mp a s ∈ (ourOpen cfg).caps ↔ (a, s) ∈ cfg.families)
      ∧ asn4Of (ourOpen cfg).caps = (if cfg.asn4 then some cfg.localAs else none)
      ∧ (∀ f, srOf (ourOpen cfg).caps f
              = if cfg.addPath ≠ 0 ∧ f ∈ addPathAllowed ∧ f ∈ cfg.addpaths then cfg.addPath else 0)
      ∧ (∀ x, x ∈ nexthopOf (ourOpen cfg).caps ↔ cfg.nexthopOn = true ∧ x ∈ nexthopAllowed ∧ x ∈ cfg.nexthops)
      ∧ (Cap.refresh ∈ (ourOpen cfg).caps ↔ cfg.routeRefresh = true)
      ∧ (Cap.enhanced ∈ (ourOpen cfg).caps ↔ cfg.routeRefresh = true)
      ∧ (Cap.extMsg ∈ (ourOpen cfg).caps ↔ cfg.extMsg = true) :=
  ⟨rfl, rfl, rfl, rfl, ourCaps_mp cfg, ourCaps_asn4Of cfg, ourCaps_srOf cfg, ourCaps_nexthopOf cfg,
    ourCaps_refresh cfg, ourCaps_enhanced cfg, ourCaps_extMsg cfg⟩

/-- **The OPEN we send, capability by capability, for EVERY capability `Capabilities.new` can emit: advertised iff
    enabled, with exactly the configured value** (membership in the emitted list, for any value):
    * ASN4 `v`: enabled and `v` = the local AS; next hop / ADD-PATH: enabled and the entries are the
      supported triples / families that are configured (ADD-PATH: each with the configured direction);
    * paths-limit: ADD-PATH on, and the entries are the configured non-zero limits of the configured,
      supported ADD-PATH families on which we advertise *receive* (none ⇒ no capability);
    * graceful restart: enabled; restart flags 0 (`restarted = False`), time = the configured time —
      the hold time when that is 0 (`Neighbor.infer`) — modulo 4096, every configured family with
      the forwarding bit (0x80);
    * hostname: the host name is not empty; host and domain cut to 64 octets;
    * software version: enabled, the string `Software()` builds;
    * operational, link-local next hop, (enhanced) route refresh, extended message: iff enabled;
    * multisession (code 68): enabled; the two instances the code emits, values `00` and `01`;
    * never: Cisco route refresh (128), Cisco multisession (131), an unknown code. -/
theorem advertises_every_capability (cfg : Cfg) :
    (∀ v, Cap.asn4 v ∈ (ourOpen cfg).caps ↔ cfg.asn4 = true ∧ v = cfg.localAs)
    ∧ (∀ es, Cap.nexthop es ∈ (ourOpen cfg).caps ↔
        cfg.nexthopOn = true ∧ es = nexthopAllowed.filter (fun t => cfg.nexthops.contains t))
    ∧ (∀ es, Cap.addpath es ∈ (ourOpen cfg).caps ↔
        cfg.addPath ≠ 0 ∧ es = (addPathAllowed.filter (fun f => cfg.addpaths.contains f)).map (famTriple cfg.addPath))
    ∧ (∀ es, Cap.pathsLimit es ∈ (ourOpen cfg).caps ↔ cfg.addPath ≠ 0 ∧ ourPathsLimit cfg ≠ [] ∧ es = ourPathsLimit cfg)
    ∧ (∀ a s l, (a, s, l) ∈ ourPathsLimit cfg ↔
        ((a, s), l) ∈ cfg.pathsLimit ∧ (a, s) ∈ addPathAllowed ∧ (a, s) ∈ cfg.addpaths ∧ cfg.addPath % 2 = 1 ∧ 0 < l)
    ∧ (∀ fl t fams, Cap.graceful fl t fams ∈ (ourOpen cfg).caps ↔
        ∃ rt, cfg.graceful = some rt ∧ fl = 0 ∧ t = (if rt = 0 then cfg.hold else rt) % 4096
          ∧ fams = cfg.families.map (fun f => (f.1, f.2, 128)))
    ∧ (∀ h d, Cap.hostname h d ∈ (ourOpen cfg).caps ↔ cfg.host ≠ [] ∧ h = cfg.host.take 64 ∧ d = cfg.domain.take 64)
    ∧ (∀ v, Cap.software v ∈ (ourOpen cfg).caps ↔ cfg.software = true ∧ v = cfg.swVersion)
    ∧ (Cap.operational ∈ (ourOpen cfg).caps ↔ cfg.operational = true)
    ∧ (Cap.linkLocal ∈ (ourOpen cfg).caps ↔ cfg.linkLocal = true)
    ∧ (∀ c v, Cap.multisession c v ∈ (ourOpen cfg).caps ↔ cfg.multiSession = true ∧ c = false ∧ (v = [0] ∨ v = [1]))
    ∧ Cap.refreshCisco ∉ (ourOpen cfg).caps ∧ (∀ c v, Cap.unknown c v ∉ (ourOpen cfg).caps) :=
  ⟨ourCaps_asn4_mem cfg, ourCaps_nexthop_mem cfg, ourCaps_addpath_mem cfg, ourCaps_pathsLimit_mem cfg,
    mem_ourPathsLimit cfg, ourCaps_graceful_mem cfg, ourCaps_hostname_mem cfg, ourCaps_software_mem cfg,
    ourCaps_operational cfg, ourCaps_linkLocal cfg, ourCaps_multisession_mem cfg,
    ourCaps_refreshCisco cfg, ourCaps_unknown cfg⟩

/-- One MP capability per configured family and at most 15 others. -/
theorem our_open_size (cfg : Cfg) : (ourOpen cfg).caps.length ≤ cfg.families.length + 15 :=
  ourCaps_length cfg

/-- **Operational** messages are in force iff both sides advertise the capability; the same for
    **link-local next hop**. -/
theorem operational_both (o t : OpenMsg) :
    ((negotiate o t).operational = true ↔ Cap.operational ∈ o.caps ∧ Cap.operational ∈ t.caps)
    ∧ ((negotiate o t).linkLocal = true ↔ Cap.linkLocal ∈ o.caps ∧ Cap.linkLocal ∈ t.caps) := by
  rw [negotiate_operational, negotiate_linkLocal]
  simp

/-- **Multisession (draft), not configured**: whatever the peer sends, nothing is negotiated and
    nothing is refused on its account. -/
theorem multisession_off (cfg : Cfg) (t : OpenMsg) (h : cfg.multiSession = false) :
    (negotiate (ourOpen cfg) t).multisession = .no := by
  rw [negotiate_ours_multisession, h]; rfl

/-- **Multisession configured, peer does not advertise it (code 68)**: refused with 2/9 — the
    verdict `validate` returns when no RFC fault comes first. -/
theorem multisession_mandatory (cfg : Cfg) (t : OpenMsg) (h : cfg.multiSession = true)
    (ht : ∀ v, Cap.multisession false v ∉ t.caps) :
    (negotiate (ourOpen cfg) t).multisession = .err 2 9 := by
  have hn : ¬ t.caps.any (isMs false) = true := fun h2 =>
    let ⟨v, hv⟩ := (any_isMs_iff _ _).1 h2; ht v hv
  rw [negotiate_ours_multisession, if_pos h, if_neg hn]

/-- **Multisession on both sides**: agreed iff the peer's MP capability, in the order the dict holds its
    families, is ours; 2/8 otherwise — also when the peer sent no MP capability at all (until the repair of F97
    that case raised a `KeyError` out of `_negotiate` and the session was reset without a NOTIFICATION). -/
theorem multisession_both (cfg : Cfg) (t : OpenMsg) (h : cfg.multiSession = true)
    (v : Bytes) (ht : Cap.multisession false v ∈ t.caps) :
    (negotiate (ourOpen cfg) t).multisession =
      if some ((capSet (ourOpen cfg).caps).mp.getD []) ≠ (capSet t.caps).mp then .err 2 8 else .yes := by
  rw [negotiate_ours_multisession, if_pos h, if_pos ((any_isMs_iff _ _).2 ⟨v, ht⟩)]

/-- **A repeated graceful-restart capability: the last one replaces the earlier ones**; restart
    flags are the top 4 bits, the time the low 12, and only the forwarding bit (0x80) of each
    family's flags is kept (`Graceful.set`). -/
theorem graceful_last_wins (caps : List Cap) (fl t : Nat) (fams : List Triple) :
    (capSet (caps ++ [Cap.graceful fl t fams])).graceful
      = some (fl, t % 4096, (fams.map fwdBit).foldl insertEntry []) := by
  simp [capSet, List.foldl_append, CapSet.add]

/-- **Repeated MP capabilities accumulate**: the dict holds exactly the families that occur, once. -/
theorem mp_accumulates (caps : List Cap) (f : Family) :
    (f ∈ (capSet caps).mp.getD [] ↔ Cap.mp f.1 f.2 ∈ caps) ∧ ((capSet caps).mp.getD []).Nodup :=
  ⟨capSet_mp_mem caps f, capSet_mp_nodup caps⟩

/-- **Repeated ADD-PATH capabilities / entries accumulate**: the octet held for a family is its
    last entry over all ADD-PATH capabilities received (a later entry overrides), 0 if none. -/
theorem addpath_accumulates (caps : List Cap) (f : Family) :
    (AList.lookup f ((capSet caps).addpath.getD [])).getD 0 = srOf caps f :=
  capSet_addpath_sr caps f

/-- **A repeated ASN4 capability: the last one wins.** -/
theorem asn4_last_wins (caps : List Cap) (v : Nat) : (capSet (caps ++ [Cap.asn4 v])).asn4 = some v := by
  simp [capSet, List.foldl_append, CapSet.add]

/-- **Order does not matter.** Permuting the peer's capabilities (their wire order; by
    `open_roundtrip_layout` also their grouping into parameters) leaves the parameters `SameParams`
    lists unchanged (families / next hops as sets) — not the multisession verdict, which depends on the order of the
    MP capabilities (examples below) — provided repeated ASN4 capabilities and repeated
    ADD-PATH entries of a family agree (otherwise the later one counts, see above). -/
theorem decode_order_irrelevant (o t t' : OpenMsg) (hp : t.caps.Perm t'.caps)
    (hAs : t'.myAs = t.myAs) (hHold : t'.hold = t.hold)
    (h4 : asn4Single t.caps) (hsr : srSingle t.caps) :
    SameParams (negotiate o t) (negotiate o t') :=
  negotiate_perm o t t' hp hAs hHold h4 hsr

/-- The same on the wire: two encodings of the peer's OPEN — any two formats, any two groupings, the
    capabilities of one a permutation of the other's — decode, and negotiate to the same parameters. -/
theorem decode_bytes_order_irrelevant (o : OpenMsg) (ext ext' : Bool) (myAs hold bgpId : Nat)
    (gs gs' : List (List Cap)) (hf : wfFixed myAs hold bgpId = true)
    (hg : wfGroups ext gs = true) (hg' : wfGroups ext' gs' = true) (hp : gs.flatten.Perm gs'.flatten)
    (h4 : asn4Single gs.flatten) (hsr : srSingle gs.flatten) :
    ∃ t t', decodeOpen (encodeOpenG ext 4 myAs hold bgpId gs) = .ok t
      ∧ decodeOpen (encodeOpenG ext' 4 myAs hold bgpId gs') = .ok t'
      ∧ SameParams (negotiate o t) (negotiate o t') :=
  ⟨_, _, decodeOpen_encG ext myAs hold bgpId gs hf hg, decodeOpen_encG ext' myAs hold bgpId gs' hf hg',
    negotiate_perm o _ _ hp rfl rfl h4 hsr⟩

/-- **short → 1/2**: fewer than the 10 fixed octets. -/
theorem refuse_short (body : Bytes) (h : body.length < 10) : decodeOpen body = .error ⟨1, 2⟩ := by
  simp [decodeOpen, h]

/-- **version → 2/1**: any version other than 4, whatever follows. -/
theorem refuse_version (body : Bytes) (h : 10 ≤ body.length) (hv : body.getD 0 0 ≠ 4) :
    decodeOpen body = .error ⟨2, 1⟩ := by
  have : ¬ body.length < 10 := by omega
  unfold decodeOpen
  rw [if_neg this, if_pos hv]

/-- **auth_param → 2/5**: an Authentication Information parameter (type 1) met after any
    well-formed capability parameters, in either format. -/
theorem refuse_auth_param (ext : Bool) (myAs hold bgpId : Nat) (gs : List (List Cap)) (v tail : Bytes)
    (hf : wfFixed myAs hold bgpId = true) (hg : gs.all (wfGroup ext) = true)
    (hv : v.length < (if ext then 65536 else 256))
    (hl : (encParams ext gs ++ (rawParam ext 1 v ++ tail)).length < (if ext then 65536 else 255)) :
    decodeOpen (openRaw ext myAs hold bgpId (encParams ext gs ++ (rawParam ext 1 v ++ tail))) = .error ⟨2, 5⟩ :=
  decodeOpen_other_param ext myAs hold bgpId gs 1 v tail hf hg (by decide) hv hl

/-- **any other parameter type → 2/4** (Unsupported Optional Parameters, RFC 4271 §6.2). -/
theorem refuse_other_param (ext : Bool) (myAs hold bgpId : Nat) (gs : List (List Cap)) (k : Nat) (v tail : Bytes)
    (hf : wfFixed myAs hold bgpId = true) (hg : gs.all (wfGroup ext) = true) (hk1 : k ≠ 1) (hk2 : k ≠ 2)
    (hv : v.length < (if ext then 65536 else 256))
    (hl : (encParams ext gs ++ (rawParam ext k v ++ tail)).length < (if ext then 65536 else 255)) :
    decodeOpen (openRaw ext myAs hold bgpId (encParams ext gs ++ (rawParam ext k v ++ tail))) = .error ⟨2, 4⟩ := by
  rw [decodeOpen_other_param ext myAs hold bgpId gs k v tail hf hg hk2 hv hl, if_neg hk1]

/-- **The model is the code** (refusals after negotiation): `Negotiated.validate`, translated statement by
    statement from /repo on this run (`harness/pylite.py` → `Generated/PyNego.lean`), refuses exactly when and
    with exactly the (code, subcode) the model's `validateOpen` does — for every configuration, negotiated
    state and peer OPEN.  The refusal theorems below are about `validateOpen`, hence about the code as it is;
    a changed comparison or a swapped test in `validate` breaks this obligation directly. -/
theorem validate_py_is_model (cfg : Cfg) (n : Negotiated) (t : OpenMsg) :
    Generated.PyNego.Negotiated.validate ⟨⟩ cfg.peerAs n.peerAs (decide (t.bgpId = 0)) cfg.localAs
        (decide (t.bgpId = cfg.routerId)) t.hold n.multisession.refused n.multisession.code n.multisession.sub =
      liftValidate (validateOpen cfg n t) :=
  py_validate_eq_model cfg n t

/-- **The model is the code** (scalar negotiation): the slice of `Negotiated._negotiate` that computes the hold
    time, asn4, operational, the two AS numbers in force, the route-refresh flavour, the maximum message size and
    link-local next hop — translated statement by statement from /repo on this run — computes exactly those
    fields of the model's `negotiateSets`, for every pair of capability sets, AS fields and hold times.  The
    theorems `hold_min`, `asn4_both`, `true_as_peer`, `true_as_local`, `refresh_flavour`, `msgsize` are therefore about the code
    as it is: a `min` turned into a `max`, a capability looked up on the wrong side, a swapped refresh test or a
    wrong size breaks this obligation directly. -/
theorem negotiate_py_is_model (oursAs oursHold theirsAs theirsHold : Nat) (s r : CapSet)
    (st0 : Generated.PyNego.NegotiatingSt) (hr : st0.refresh = Generated.PyNego.refreshAbsent)
    (hm : st0.msg_size = Generated.PyNego.initialSize) :
    Generated.PyNego.Negotiating.negotiate_scalars st0 oursHold theirsHold oursAs theirsAs
        ((s.asn4.getD 0 : Nat) : Int) ((r.asn4.getD 0 : Nat) : Int) s.asn4.isSome r.asn4.isSome
        s.asn4.isSome r.asn4.isSome s.operational r.operational s.enhanced r.enhanced s.refresh r.refresh
        s.extMsg r.extMsg s.linkLocal r.linkLocal =
      .ret () (scalarsOf (negotiateSets oursAs oursHold theirsAs theirsHold s r)) :=
  py_negotiate_scalars_eq_model oursAs oursHold theirsAs theirsHold s r st0 hr hm

/-- **The model is the code** (the fixed part of a received OPEN): `Open.unpack_message`, translated from /repo
    on this run, refuses a body shorter than the ten octets of the fixed part with 1/2 and a version other than 4
    with 2/1 and accepts otherwise (`openFront`), and what `openFront` refuses `decodeOpen` refuses with the same error. -/
theorem open_fixed_py_is_model (body : Bytes) :
    Generated.PyNego.OpenFixed.unpack_message ⟨⟩ body.length (body.getD 0 0) =
      (match openFront body with | some e => .raise e.code e.sub | none => .ret true ⟨⟩) ∧
    (∀ e, openFront body = some e → decodeOpen body = .error e) :=
  ⟨py_open_fixed_eq_model body, fun e h => decodeOpen_front body e h⟩

/-- **bad_peer_as → 2/2**: a peer AS is configured and the peer AS in force differs. -/
theorem refuse_bad_peer_as (cfg : Cfg) (n : Negotiated) (t : OpenMsg) (h0 : cfg.peerAs ≠ 0)
    (h : n.peerAs ≠ cfg.peerAs) : validateOpen cfg n t = some ⟨2, 2⟩ := by
  simp [validateOpen, h0, h]

/-- **bad_id → 2/3**: BGP identifier 0.0.0.0 (peer AS acceptable). -/
theorem refuse_bad_id (cfg : Cfg) (n : Negotiated) (t : OpenMsg)
    (hp : ¬ (cfg.peerAs ≠ 0 ∧ n.peerAs ≠ cfg.peerAs)) (h : t.bgpId = 0) :
    validateOpen cfg n t = some ⟨2, 3⟩ := by
  simp only [validateOpen, if_neg hp, h, if_true]

/-- **hold_1_2 → 2/6**: hold time 1 or 2 when nothing earlier refuses. -/
theorem refuse_hold_1_2 (cfg : Cfg) (n : Negotiated) (t : OpenMsg)
    (hp : ¬ (cfg.peerAs ≠ 0 ∧ n.peerAs ≠ cfg.peerAs)) (hi : t.bgpId ≠ 0)
    (hc : ¬ (n.peerAs = cfg.localAs ∧ t.bgpId = cfg.routerId)) (h : t.hold = 1 ∨ t.hold = 2) :
    validateOpen cfg n t = some ⟨2, 6⟩ := by
  have h' : t.hold ≠ 0 ∧ t.hold < holdMin := by simp only [holdMin]; omega
  simp only [validateOpen, if_neg hp, if_neg hi, if_neg hc, if_pos h']

/-- **The refusals are the RFC ones.** For a peer with RFC 6793 AS fields, `validate` refuses
    exactly when the RFCs require it (`rfcRefusals`: 2/2 unacceptable peer AS on the *true* AS
    number, 2/3 zero identifier, 2/3 internal peer with our identifier, 2/6 hold time 1–2) and with
    the subcode of the first such fault; otherwise only the multisession draft's verdict remains. -/
theorem refusals_are_rfc (cfg : Cfg) (t : OpenMsg) (hc : consistentAs t) :
    validateOpen cfg (negotiate (ourOpen cfg) t) t =
      match (rfcRefusals cfg.localAs cfg.peerAs cfg.routerId (ourOpen cfg) t).head? with
      | some e => some e
      | none => msVerdict (negotiate (ourOpen cfg) t) := by
  have h4 : (t.hold ≠ 0 ∧ t.hold < 3) ↔ (t.hold = 1 ∨ t.hold = 2) := by omega
  rw [validateOpen_eq, peerAs_eq_rfc _ _ hc]
  generalize msVerdict (negotiate (ourOpen cfg) t) = d
  -- `++ []` gives the last test of the list the shape of the others
  have key : ∀ l : List Err, (match l.head? with | some e => some e | none => d) = (l ++ []).head?.or d :=
    fun l => by rw [List.append_nil]; cases l.head? <;> rfl
  rw [key]
  simp only [rfcRefusals, List.append_assoc, or_head?_ite_append, h4, List.head?_nil, Option.none_or]

/-- the capability codes with a decoder are the ones `decodeCap` dispatches on -/
theorem table_registered_codes : Generated.CapTable.registered.map (·.1) = knownCodes := by decide

/-- `Capability.CODE.*` are the codes of the typed capabilities -/
theorem table_codes : Generated.CapTable.codes =
    [("MULTIPROTOCOL", (Cap.mp 0 0).code), ("ROUTE_REFRESH", Cap.refresh.code), ("NEXTHOP", (Cap.nexthop []).code),
     ("EXTENDED_MESSAGE", Cap.extMsg.code), ("GRACEFUL_RESTART", (Cap.graceful 0 0 []).code),
     ("FOUR_BYTES_ASN", (Cap.asn4 0).code), ("MULTISESSION", (Cap.multisession false []).code),
     ("ADD_PATH", (Cap.addpath []).code), ("ENHANCED_ROUTE_REFRESH", Cap.enhanced.code),
     ("HOSTNAME", (Cap.hostname [] []).code), ("SOFTWARE_VERSION", (Cap.software []).code),
     ("PATHS_LIMIT", (Cap.pathsLimit []).code), ("LINK_LOCAL_NEXTHOP", Cap.linkLocal.code),
     ("ROUTE_REFRESH_CISCO", Cap.refreshCisco.code), ("MULTISESSION_CISCO", (Cap.multisession true []).code),
     ("OPERATIONAL", Cap.operational.code)] := rfl

/-- `Capabilities._ADD_PATH`, `Capabilities._NEXTHOP` -/
theorem table_addpath_nexthop : Generated.CapTable.addPathFamilies = addPathAllowed
    ∧ Generated.CapTable.nexthopTriples = nexthopAllowed := by decide

/-- the constants: HoldTime.MIN, the RFC 9072 switch (`len(parameters) < 255` keeps the one-octet
    form, i.e. exactly `useExtended`), the extended-format marker and parameter header sizes,
    parameter types, AS_TRANS, fixed-part size, version, message sizes, hostname limit, graceful
    restart masks, ADD-PATH bits, REFRESH values. -/
theorem table_constants :
    Generated.CapTable.holdTimeMin = holdMin
    ∧ Generated.CapTable.openParamLenMax = 255 ∧ Generated.CapTable.switchOp = "lt"
    ∧ Generated.CapTable.extendedMarker = 255 ∧ Generated.CapTable.extendedLengthType = 255
    ∧ Generated.CapTable.minParamLen = 2 ∧ Generated.CapTable.minExtendedParamLen = 3
    ∧ Generated.CapTable.paramAuth = 1 ∧ Generated.CapTable.paramCapabilities = 2
    ∧ Generated.CapTable.asTrans = asTrans ∧ Generated.CapTable.asnMax2 = 65535
    ∧ Generated.CapTable.openHeaderSize = 9 ∧ Generated.CapTable.openMinimumBody = 10
    ∧ Generated.CapTable.bgpVersion = 4
    ∧ Generated.CapTable.initialSize = initialSize ∧ Generated.CapTable.extendedSize = extendedSize
    ∧ Generated.CapTable.hostnameMaxLen = 64
    ∧ Generated.CapTable.gracefulTimeMask = 4095 ∧ Generated.CapTable.gracefulForwarding = 128
    ∧ Generated.CapTable.addPathReceiveBit = 1 ∧ Generated.CapTable.addPathSendBit = 2
    ∧ Generated.CapTable.refreshValues = [1, 2, 4] :=
  ⟨rfl, rfl, rfl, rfl, rfl, rfl, rfl, rfl, rfl, rfl, rfl, rfl, rfl, rfl, rfl, rfl, rfl, rfl, rfl, rfl, rfl, rfl⟩

/-! ## Non-vacuity and witnesses (concrete inputs, evaluated or put into the theorems above) -/

def demoCfg : Cfg :=
  { localAs := 65000, peerAs := 65001, routerId := 16843009, hold := 180, families := [(1, 1), (2, 1)],
    addPath := 3, addpaths := [(1, 1)], routeRefresh := true, nexthopOn := true, nexthops := [(1, 1, 2)],
    host := [114, 49], domain := [101, 120] }

/-- a peer with repeated MP, two ADD-PATH capabilities (the second overrides 1.1), ASN4, refresh -/
def demoPeer : OpenMsg :=
  { version := 4, myAs := 65001, hold := 90, bgpId := 33686018,
    caps := [.mp 2 1, .addpath [(1, 1, 2)], .mp 1 1, .mp 2 1, .asn4 65001, .enhanced, .refresh,
             .addpath [(1, 1, 1), (2, 1, 3)], .nexthop [(1, 1, 2), (1, 4, 2)], .unknown 99 [1, 2], .extMsg] }

example : cfgOK demoCfg = true := by decide +kernel
example : wfOpen (ourOpen demoCfg) = true := cfgOK_wf demoCfg (by decide +kernel)
example : wfOpen demoPeer = true := by decide +kernel
example : decodeOpen (encodeOpen demoPeer) = .ok demoPeer := open_roundtrip demoPeer (by decide +kernel)
example : (negotiate (ourOpen demoCfg) demoPeer).families = [(2, 1), (1, 1)] := by decide +kernel
example : (negotiate (ourOpen demoCfg) demoPeer).send (1, 1) = true := by decide +kernel
example : (negotiate (ourOpen demoCfg) demoPeer).receive (1, 1) = false := by decide +kernel
example : (negotiate (ourOpen demoCfg) demoPeer).nexthop = [(1, 1, 2)] := by decide +kernel
example : (negotiate (ourOpen demoCfg) demoPeer).refresh = .enhanced ∧ (negotiate (ourOpen demoCfg) demoPeer).msgSize = 65535
    ∧ (negotiate (ourOpen demoCfg) demoPeer).hold = 90 ∧ (negotiate (ourOpen demoCfg) demoPeer).asn4 = true := by decide +kernel
example : validSR demoPeer.caps ∧ consistentAs demoPeer := by
  constructor
  · intro e he; simp [demoPeer, addpathEntries] at he; rcases he with h | h | h <;> subst h <;> decide
  · intro a ha; simp [demoPeer, asn4Of] at ha; subst ha; decide
example : validateOpen demoCfg (negotiate (ourOpen demoCfg) demoPeer) demoPeer = none := by decide +kernel

/-- every capability `Capabilities.new` can emit, at once (graceful restart time 0 ⇒ hold time 180) -/
def demoFull : Cfg :=
  { localAs := 4200000000, peerAs := 65001, routerId := 16843009, hold := 180, families := [(1, 1), (2, 1), (1, 128)],
    nexthopOn := true, nexthops := [(1, 1, 2), (1, 128, 2), (2, 1, 1)], addPath := 3, addpaths := [(1, 1), (2, 1), (25, 65)],
    pathsLimit := [((1, 1), 10), ((2, 1), 0), ((1, 4), 7)], graceful := some 0, routeRefresh := true, operational := true,
    host := [114, 49], domain := [110, 101, 116], software := true, swVersion := [69, 120, 97], linkLocal := true,
    multiSession := true }
example : cfgOK demoFull = true := by decide +kernel
example : (ourOpen demoFull).caps =
    [.mp 1 1, .mp 2 1, .mp 1 128, .asn4 4200000000, .nexthop [(1, 1, 2), (1, 128, 2)], .addpath [(1, 1, 3), (2, 1, 3)],
     .pathsLimit [(1, 1, 10)], .graceful 0 180 [(1, 1, 128), (2, 1, 128), (1, 128, 128)], .refresh, .enhanced,
     .operational, .extMsg, .hostname [114, 49] [110, 101, 116], .software [69, 120, 97], .linkLocal,
     .multisession false [0], .multisession false [1]] := by decide +kernel
example : decodeOpen (encodeOpen (ourOpen demoFull)) = .ok (ourOpen demoFull) := our_open_roundtrip demoFull (by decide +kernel)
example : (capSet (ourOpen demoFull).caps).graceful = some (0, 180, [((1, 1), 128), ((2, 1), 128), ((1, 128), 128)]) := by decide +kernel
/-- a peer that agrees on multisession (same MP list), operational, link-local -/
def msPeer (caps : List Cap) : OpenMsg := { version := 4, myAs := 65001, hold := 90, bgpId := 33686018, caps := caps }
example :
    let t := msPeer [.mp 1 1, .mp 2 1, .mp 1 128, .multisession false [], .operational, .linkLocal, .asn4 65001]
    (negotiate (ourOpen demoFull) t).multisession = .yes ∧ (negotiate (ourOpen demoFull) t).operational = true
      ∧ (negotiate (ourOpen demoFull) t).linkLocal = true := by decide +kernel
example : (negotiate (ourOpen demoFull) (msPeer [.mp 2 1, .mp 1 1, .multisession false []])).multisession = .err 2 8 := by decide +kernel
example : validateOpen demoFull (negotiate (ourOpen demoFull) (msPeer [.mp 1 1])) (msPeer [.mp 1 1]) = some ⟨2, 9⟩ := by decide +kernel

/-- An OPEN above the RFC 9072 switch: 40 families (320 octets of parameters) — extended format. -/
def demoBig : Cfg :=
  { localAs := 65000, routerId := 16843009, hold := 180,
    families := (List.range 40).map (fun i => (1 + i % 2, 1 + i / 2)) }
example : cfgOK demoBig = true := by decide +kernel
example : useExtended (ourOpen demoBig).caps = true := by decide +kernel
example : (encodeOpen (ourOpen demoBig)).length = 9 + 4 + 40 * 9 + 9 + 5 := by decide +kernel
example : wfOpen (ourOpen demoBig) = true := cfgOK_wf demoBig (by decide +kernel)
example : decodeOpen (encodeOpen (ourOpen demoBig)) = .ok (ourOpen demoBig) := our_open_roundtrip demoBig (by decide +kernel)

/-- boundary: parameter block of exactly 254 (one-octet form) and 255 octets (extended form). -/
def pad (n : Nat) : OpenMsg :=
  { version := 4, myAs := 1, hold := 3, bgpId := 1, caps := [.unknown 200 (List.replicate n 0), .unknown 201 (List.replicate 100 7)] }
example : useExtended (pad 146).caps = false ∧ (encParams false ((pad 146).caps.map (fun c => [c]))).length = 254 := by decide +kernel
example : useExtended (pad 147).caps = true ∧ (encParams false ((pad 147).caps.map (fun c => [c]))).length = 255 := by decide +kernel
example : decodeOpen (encodeOpen (pad 146)) = .ok (pad 146) ∧ decodeOpen (encodeOpen (pad 147)) = .ok (pad 147) :=
  ⟨open_roundtrip _ (by decide +kernel), open_roundtrip _ (by decide +kernel)⟩
/-- The one-octet form with a 255-octet block (another speaker's choice) still decodes. -/
example : decodeOpen (encodeOpenG false 4 1 3 1 ((pad 147).caps.map (fun c => [c]))) = .ok (pad 147) :=
  open_roundtrip_layout false 1 3 1 _ (by decide +kernel) (by decide +kernel)

/-- F4 witness (repaired): local AS 70000 (iBGP with 70000): the session runs with local AS 70000. -/
def f4Cfg : Cfg := { localAs := 70000, peerAs := 70000, routerId := 16843009, hold := 180, families := [(1, 1)] }
def f4Peer (id : Nat) : OpenMsg :=
  { version := 4, myAs := 23456, hold := 180, bgpId := id, caps := [.mp 1 1, .asn4 70000] }
example : (negotiate (ourOpen f4Cfg) (f4Peer 33686018)).localAs = 70000
    ∧ (rfcNegotiate (ourOpen f4Cfg) (f4Peer 33686018)).localAs = 70000
    ∧ (negotiate (ourOpen f4Cfg) (f4Peer 33686018)).peerAs = 70000 := by decide

/-- F4 (same cause, repaired): an internal peer presenting our own BGP identifier is refused 2/3
    also when the local AS needs 4 octets. -/
example :
    rfcRefusals f4Cfg.localAs f4Cfg.peerAs f4Cfg.routerId (ourOpen f4Cfg) (f4Peer 16843009) = [⟨2, 3⟩]
      ∧ validateOpen f4Cfg (negotiate (ourOpen f4Cfg) (f4Peer 16843009)) (f4Peer 16843009) = some ⟨2, 3⟩ := by decide

/-- ADD-PATH octet 5 from the peer: the code reads "receive" (bit 1) and sends path identifiers;
    RFC 7911 §4 (SHOULD) treats the entry as not understood. -/
theorem addpath_octet_5_deviation :
    let o : OpenMsg := { version := 4, myAs := 1, hold := 3, bgpId := 1, caps := [.addpath [(1, 1, 3)]] }
    let t : OpenMsg := { version := 4, myAs := 2, hold := 3, bgpId := 2, caps := [.addpath [(1, 1, 5)]] }
    (negotiate o t).send (1, 1) = true ∧ (1, 1) ∉ (rfcNegotiate o t).apSend := by decide

/-- refusal witnesses on bytes: short, version 3, authentication parameter, parameter type 3 -/
example : decodeOpen [4, 0, 1, 0, 3, 1, 1, 1, 1] = .error ⟨1, 2⟩ := by decide
example : decodeOpen [3, 0, 1, 0, 3, 1, 1, 1, 1, 0] = .error ⟨2, 1⟩ := by decide
example : decodeOpen [4, 0, 1, 0, 3, 1, 1, 1, 1, 6, 2, 2, 2, 0, 1, 0] = .error ⟨2, 5⟩ := by decide
example : decodeOpen [4, 0, 1, 0, 3, 1, 1, 1, 1, 6, 2, 2, 2, 0, 3, 0] = .error ⟨2, 4⟩ := by decide
example : decodeOpen (openRaw true 1 3 1 (encParams true [[.refresh]] ++ (rawParam true 1 [9] ++ []))) = .error ⟨2, 5⟩ := by decide

end Exa.Props.C07
