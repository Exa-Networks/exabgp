import ExaModel.Lemmas.Fields
import ExaModel.Generated.PyAnnounce
/-!
# C18 — Route text is accepted if and only if it can be sent

Statement (properties.jsonl): any text offered as a route, flow, VPLS or attribute definition —
in a configuration file or an API command — is either refused with an error message (file and
line for a configuration, an error reply on the API) or accepted; it is never answered with an
unhandled exception.  Every accepted definition can be encoded for every kind of session without
raising and carries the values as written, so a value the wire format cannot hold is refused at
parse time rather than wrapped or truncated, while every value the RFCs allow (for example
4-byte AS numbers in an AS path) is accepted.

What is proved here is the **spec side** of that statement, for the model `Exa.Fields`
(M-Fields), for ALL values of every field of the grammar and both kinds of session that matter
to a field (`Sess.asn4`, `Sess.asn2`; ADD-PATH, iBGP/eBGP and the message size do not change how
a field is laid out):

* a value that fits survives the wire (`fits_roundtrip`), in exactly `width f` well-formed bytes
  (`encode_length`, `encode_wellformed`) that a receiver takes as a value (`encode_valid`);
* a value that does not fit has NO encoding: no byte string of the field's width that a receiver
  takes as a value of the field reads back as it (`nofit_no_encoding`) — so a parser that accepts
  it can only wrap, truncate, or fail later; for a plain unsigned integer of `w` bytes (not a `Field`)
  `unfit_wraps` says what wrapping yields: `v mod 256^w`;
* the values the RFCs allow are exactly the values that fit (`rfc_values_fit`,
  `rfc_limit_is_layout_limit`), in particular every AS number below 2^32 on every kind of session
  (`asn_fits_every_session`, via AS_TRANS + AS4_PATH on a 2-byte session: `astrans_shape`);
* AS_PATH segments never exceed the one-byte segment length (`segSplit_sound`);
* the acceptance side: `accepts f v`, the range check of the parser as a function of the bounds
  re-extracted from the parser sources on every run, is exactly "not negative and fits" for every value
  field, and "fits and leaves room in the UPDATE" for the five list lengths (`parser_bounds_exact`,
  `accepts_iff_fits`, `accepts_iff_sendable`); what is accepted is carried as written
  (`accepted_encodes`), what is refused cannot be sent (`refused_cannot_be_sent`).

This is `partial` in the sense of DESIGN section 1: the range checks of the parsers are in the model
(generated), their *control flow* is not — that the parser applies exactly the generated comparison to
the token, and never raises on a token that is not a number, is the acceptance sweep of
`harness/props/C18.py` (every field × every boundary value and a random sample × every entry point ×
every session shape), which compares the real accept / refuse decision with `accepts` and uses
`fits`, `encodeField` and `decodeField` of this file through `drv_fields` as the oracle.
-/
namespace Exa.Props.C18
open Exa Exa.Fields

/-- **Values that fit survive the wire.**  For every field, every session kind and every value:
    if the wire format can hold the value, decoding the encoding gives the value back. -/
theorem fits_roundtrip (f : Field) (v : Nat) (h : fits f v = true) :
    decodeField f (encodeField f v) = v := by
  cases ht : f.isTrans
  · simp only [decodeField, encodeField, ht, Bool.false_eq_true, if_false]
    exact Layout.roundtrip _ (layout_wf f) v h
  · exact trans_roundtrip f ht v h

/-- **A value that does not fit has no encoding.**  If the wire format cannot hold `v`, then no
    well-formed byte string of the field's width that a receiver takes as a value of the field
    decodes to `v`: accepting the text can only mean wrapping, truncation or a later failure. -/
theorem nofit_no_encoding (f : Field) (v : Nat) (h : fits f v = false) (bs : Bytes)
    (hlen : bs.length = width f) (hbs : WFBytes bs) (hvalid : validWire f bs = true) :
    decodeField f bs ≠ v := by
  cases ht : f.isTrans
  · simp only [decodeField, validWire, ht, Bool.false_eq_true, if_false] at *
    exact Layout.nofit _ v h bs hvalid
  · exact trans_nofit f ht v h bs hlen hbs

/-- For the fields with no semantic bound below the capacity of their bits (`full`), the
    `validWire` hypothesis of `nofit_no_encoding` is no restriction: every well-formed byte string
    of the right width is a value of the field. -/
theorem every_wire_value_valid (f : Field) (hf : full f = true) (bs : Bytes)
    (hlen : bs.length = width f) (hbs : WFBytes bs) : validWire f bs = true := by
  cases ht : f.isTrans
  · simp only [validWire, full, width, ht, Bool.false_eq_true, if_false, Bool.false_or] at *
    exact Layout.validWire_of_full _ (layout_wf f) hf bs hlen hbs
  · simp [validWire, ht]

/-- Which fields have a semantic bound below their capacity: the prefix lengths, the DSCP values,
    the IPv6 flow label and the IPv6 FlowSpec prefix offset — and no other. -/
theorem full_fields (f : Field) : full f = false ↔
    f ∈ [Field.mask4, .mask6, .flowDscp, .flowLabel, .flowMask4, .flowMask6, .flowOffset6, .markDscp] := by
  revert f; apply of_allFields; decide +kernel

/-- The encoding takes exactly `width f` bytes, whatever the value. -/
theorem encode_length (f : Field) (v : Nat) : (encodeField f v).length = width f := by
  cases ht : f.isTrans <;> simp [encodeField, width, ht, beN_length, Layout.encode_length]

/-- The encoding is a byte string (every element below 256), whatever the value. -/
theorem encode_wellformed (f : Field) (v : Nat) : WFBytes (encodeField f v) := by
  cases ht : f.isTrans <;> simp only [encodeField, ht, Bool.false_eq_true, if_false, if_true]
  · exact Layout.encode_wfBytes _ _
  · exact wfBytes_append (wf_beN _ _) (wf_beN _ _)

/-- What is sent for a value that fits is a value of the field for the receiver. -/
theorem encode_valid (f : Field) (v : Nat) (h : fits f v = true) :
    validWire f (encodeField f v) = true := by
  cases ht : f.isTrans
  · simp only [validWire, encodeField, ht, Bool.false_eq_true, if_false]
    exact Layout.encode_valid _ (layout_wf f) v h
  · simp [validWire, ht]

/-- The limits of the wire layouts are the RFC limits written out independently in `rfcLimit`. -/
theorem rfc_limit_is_layout_limit (f : Field) : (layout f).limit = rfcLimit f := layout_limit f

/-- **Every value the RFCs allow fits, and nothing else does.** -/
theorem rfc_values_fit (f : Field) (v : Nat) : fits f v = true ↔ v < rfcLimit f := by
  simp [fits, Layout.fits, layout_limit]

/-- **4-byte AS numbers on every kind of session.**  Every AS number below 2^32 can be sent in an
    AS_PATH and in an AGGREGATOR whether or not the session negotiated 4-byte AS numbers. -/
theorem asn_fits_every_session (s : Sess) (v : Nat) (h : v < 4294967296) :
    fits (.asPathAsn s) v = true ∧ fits (.aggregatorAsn s) v = true :=
  ⟨(rfc_values_fit _ v).2 h, (rfc_values_fit _ v).2 h⟩

/-- On a 2-byte session an AS number that needs 4 bytes is sent as AS_TRANS (23456) in the 2-byte
    element and in full in the AS4_PATH element (RFC 6793; ties to `c01_astrans`). -/
theorem astrans_shape (v : Nat) (h1 : 65536 ≤ v) :
    encodeField (.asPathAsn .asn2) v = [91, 160] ++ beN 4 v := by
  have : ¬ v < 65536 := by omega
  simp [encodeField, Field.isTrans, this, asTrans, beN]

/-- **What accepting an unfit value means for a plain unsigned field**: the bytes that come out of
    shifting and masking are those of `v mod 256^w` — a different number whenever `v` does not fit. -/
theorem unfit_wraps (w v : Nat) : rdN (beN w v) = v % 256 ^ w := rdN_beN w v

/-- **AS_PATH segment length.**  The segments `ASPath._segment` produces for `n` AS numbers written
    in one segment hold all `n` of them and each holds between 1 and 255. -/
theorem segSplit_sound (n : Nat) : (segSplit n).sum = n ∧ ∀ x ∈ segSplit n, 0 < x ∧ x ≤ 255 :=
  ⟨segSplitAux_sum n n (Nat.le_refl n), segSplitAux_le n n⟩

/-! ## the acceptance side: the parser of /repo accepts exactly what can be sent

`accepts f v` is the range check of the repaired parser on a plain decimal token, as a function of the
bounds `harness/tables/fields.py` reads from the comparisons of the parser sources on every run
(`Generated/FieldLimits.lean`: 67 rows, one per field; 63 read from comparisons in the source, the 4
IPv4-octet fields of `originator-id`, `cluster-list`, `aggregator` and `path-information` are bounded by
`socket.inet_pton` / `bytes()` and measured).  The statements below carry no list of excepted fields. -/

/-- **The translation obligation.**  For every field, the bounds re-extracted from the parser are
    exactly `[0, acceptLimit f - 1]`: the RFC limit of the field, and for the five list lengths what
    leaves room in a 65535-byte UPDATE.  A comparison that changes in /repo changes the generated
    row and this theorem no longer checks; one that disappears or changes operator stops the
    translator. -/
theorem parser_bounds_exact (f : Field) :
    parserBound f = some (0, (acceptLimit f : Int) - 1) := parserBound_eq f

/-- **Accepted if and only if it fits** — every field that is a value (62 of the 67): the parser lets a
    plain decimal token through exactly when it is not negative and the wire format can hold it. -/
theorem accepts_iff_fits (f : Field) (hf : f.isCount = false) (v : Int) :
    accepts f v = true ↔ (0 ≤ v ∧ fits f v.toNat = true) := by
  rw [accepts_iff_lt, acceptLimit_of_not_count f hf, rfc_values_fit]
  omega

/-- **Accepted if and only if it can be sent** — every field, no exception: for a value "fits"; for
    the five list lengths (data bytes of a generic attribute, communities, large communities, extended
    communities, cluster ids) "fits its length field AND leaves room in a 65535-byte UPDATE" (header 19,
    two length fields 4, attribute header 4, 128 bytes for the other attributes and the NLRI). -/
theorem accepts_iff_sendable (f : Field) (v : Int) :
    accepts f v = true ↔
      (0 ≤ v ∧ fits f v.toNat = true ∧
        (f.isCount = true → msgFits 65535 (v.toNat * f.unit + 4) 128 = true)) := by
  rw [accepts_iff_lt, rfc_values_fit]
  cases hf : f.isCount
  · rw [acceptLimit_of_not_count f hf]
    simp only [Bool.false_eq_true, false_implies, and_true]
    omega
  · have hle := acceptLimit_le_rfcLimit f
    simp only [forall_const, ← count_room f hf]
    omega

/-- Whatever the parser accepts fits the wire format (all 67 fields). -/
theorem accepts_implies_fits (f : Field) (v : Int) (h : accepts f v = true) :
    0 ≤ v ∧ fits f v.toNat = true := by
  have := (accepts_iff_sendable f v).1 h
  exact ⟨this.1, this.2.1⟩

/-- **Every accepted definition carries the value as written.**  A token the parser accepts is a
    natural number whose encoding is exactly `width f` well-formed bytes, which a receiver takes as
    a value of the field and decodes to the number written — on both kinds of session. -/
theorem accepted_encodes (f : Field) (v : Int) (h : accepts f v = true) :
    ((v.toNat : Int) = v) ∧ (encodeField f v.toNat).length = width f ∧ WFBytes (encodeField f v.toNat)
      ∧ validWire f (encodeField f v.toNat) = true
      ∧ decodeField f (encodeField f v.toNat) = v.toNat := by
  obtain ⟨h0, hfit⟩ := accepts_implies_fits f v h
  exact ⟨by omega, encode_length f _, encode_wellformed f _, encode_valid f _ hfit, fits_roundtrip f _ hfit⟩

/-- What the parser refuses cannot be sent: a negative number, a value with no encoding
    (`nofit_no_encoding`), or a list that leaves no room in the UPDATE. -/
theorem refused_cannot_be_sent (f : Field) (v : Int) (h : accepts f v = false) :
    v < 0 ∨ fits f v.toNat = false ∨
      (f.isCount = true ∧ msgFits 65535 (v.toNat * f.unit + 4) 128 = false) := by
  have hs := mt (accepts_iff_sendable f v).2 (by simp [h])
  simpa only [Classical.not_and_iff_not_or_not, Classical.not_imp, Bool.not_eq_true, Int.not_le] using hs

/-- The widest value each FlowSpec component class encodes (`VALUE_SIZES`) is the model's width. -/
theorem flow_widths_match :
    ∀ row ∈ Exa.Generated.FieldLimits.flowWidth,
      ∃ f, Field.ofName? row.1 = some f ∧ (layout f).width = row.2 := by
  have rows : Exa.Generated.FieldLimits.flowWidth =
      [Field.flowProtocol, .flowNextHeader, .flowPort, .flowDstPort, .flowSrcPort, .flowIcmpType, .flowIcmpCode,
        .flowTcpFlags, .flowPacketLength, .flowDscp, .flowTrafficClass, .flowFragment, .flowLabel].map
        fun f => (f.name, (layout f).width) := rfl
  intro row h
  obtain ⟨f, -, rfl⟩ := List.mem_map.1 (rows ▸ h)
  exact ⟨f, Field.ofName?_name f, rfl⟩

/-- `ASPath.SEGMENT_MAX_LENGTH`, `AS_TRANS`, `ASN.MAX_2BYTE`, `ATTRIBUTE_VALUE_MAX` and the bytes one
    list element takes are the constants of the model. -/
theorem generated_constants :
    Exa.Generated.FieldLimits.segmentMax = 255 ∧ Exa.Generated.FieldLimits.asTrans = asTrans
      ∧ Exa.Generated.FieldLimits.asn2Max + 1 = 65536
      ∧ Exa.Generated.FieldLimits.attributeValueMax = 65535 - 19 - 4 - 4 - 128
      ∧ (∀ row ∈ Exa.Generated.FieldLimits.countUnits,
          ∃ f, Field.ofName? row.1 = some f ∧ f.isCount = true ∧ f.unit = row.2)
      ∧ Exa.Generated.FieldLimits.parserBounds.length = allFields.length := by
  have rows : Exa.Generated.FieldLimits.countUnits =
      [Field.attrLen, .communitiesCount, .largeCommunitiesCount, .extCommunitiesCount, .clusterCount].map
        fun f => (f.name, f.unit) := rfl
  refine ⟨rfl, rfl, rfl, rfl, fun row h => ?_, by rw [parserBounds_eq, List.length_map]⟩
  obtain ⟨f, hf, rfl⟩ := List.mem_map.1 (rows ▸ h)
  exact ⟨f, Field.ofName?_name f, by clear h; revert f; decide, rfl⟩

/-! ## non-vacuity: the hypotheses are satisfiable and the conclusions bite -/

-- the property's own example: AS 4200000000 in an AS path on a 2-byte session
example : fits (.asPathAsn .asn2) 4200000000 = true := by decide +kernel
example : encodeField (.asPathAsn .asn2) 4200000000 = [91, 160, 250, 86, 234, 0] := by decide +kernel
example : decodeField (.asPathAsn .asn2) [91, 160, 250, 86, 234, 0] = 4200000000 := by decide +kernel
example : decodeField (.asPathAsn .asn2) (encodeField (.asPathAsn .asn2) 23456) = 23456 := by decide +kernel
example : encodeField (.asPathAsn .asn4) 65536 = [0, 1, 0, 0] := by decide +kernel
-- F23: 65536 fits an AS path element on both kinds of session (and the parser raises struct.error)
example : fits (.asPathAsn .asn4) 65536 = true ∧ fits (.asPathAsn .asn2) 65536 = true := by decide +kernel
-- F24/F25: 65536 does not fit either half of a community; 2^32 no third of a large community
example : fits .communityHigh 65536 = false ∧ fits .communityLow 65536 = false := by decide +kernel
example : fits .largeGlobal 4294967296 = false := by decide +kernel
-- F25: `community [ 1:65536 ]` is packed as the 32-bit number (1 << 16) + 65536 = 2:0
example : Layout.encode (Layout.uint 4) ((1 <<< 16) + 65536) = [0, 2, 0, 0] := by decide +kernel
-- F25: path-information 4294967296 is shifted and masked into 0.0.0.0
example : fits .pathInfo 4294967296 = false ∧ encodeField .pathInfo 4294967296 = [0, 0, 0, 0] := by decide +kernel
-- F27: protocol 256 does not fit the one byte a protocol takes
example : fits .flowProtocol 255 = true ∧ fits .flowProtocol 256 = false := by decide +kernel
-- F26: 20 000 communities / a 70 000-byte attribute do not fit an extended attribute length
example : fits .communitiesCount 16383 = true ∧ fits .communitiesCount 20000 = false := by decide +kernel
example : fits .attrLen 65535 = true ∧ fits .attrLen 70000 = false := by decide +kernel
-- labels: 20 bits, bottom-of-stack bit in the low nibble
example : encodeField .label 1048575 = [255, 255, 241] ∧ fits .label 1048576 = false := by decide +kernel
example : decodeField .label [255, 255, 241] = 1048575 := by decide +kernel
-- a prefix length of 33 is a byte on the wire, but not a value of the field
example : fits .mask4 33 = false ∧ validWire .mask4 [33] = false ∧ validWire .mask4 [32] = true := by decide +kernel
-- VPLS label base: 20 bits, and accepted (F-vpls closed)
example : fits .vplsBase 800000 = true ∧ accepts .vplsBase 800000 = true := by simp only [accepts_eq]; decide +kernel
-- the acceptance side bites on both sides of every kind of bound
example : accepts (.asPathAsn .asn2) 4294967295 = true ∧ accepts (.asPathAsn .asn2) 4294967296 = false := by simp only [accepts_eq]; decide +kernel
example : accepts .communityLow 65535 = true ∧ accepts .communityLow 65536 = false ∧ accepts .communityLow (-1) = false := by simp only [accepts_eq]; decide +kernel
example : accepts .mask4 32 = true ∧ accepts .mask4 33 = false := by simp only [accepts_eq]; decide +kernel
example : accepts .flowOffset6 127 = true ∧ accepts .flowOffset6 128 = false := by simp only [accepts_eq]; decide +kernel
-- a list: 16345 communities (65380 bytes) are accepted, 16346 are refused although 16383 fit the length field
example : accepts .communitiesCount 16345 = true ∧ accepts .communitiesCount 16346 = false ∧ fits .communitiesCount 16383 = true := by simp only [accepts_eq]; decide +kernel
example : msgFits 65535 (16345 * 4 + 4) 128 = true ∧ msgFits 65535 (16346 * 4 + 4) 128 = false := by decide +kernel
-- 600 AS numbers in one written segment: 255 + 255 + 90
example : segSplit 600 = [255, 255, 90] := by decide +kernel
example : asPathLen .asn4 600 = 2406 := by decide +kernel

/-! ### what every announce needs (`validate_announce_nlri`, regenerated from /repo on every run)

The function is "the single source of truth for announce validation": the encoder raises on what it refuses, the API
applies it before answering and — since the repairs of F104 / F105 / F107 — so do the configuration file and the
`announce ipv4|ipv6` handlers.  Inputs: the family is not FlowSpec, the next hop is the undefined one, the SAFI carries
labels / a route distinguisher, the NLRI object has none. -/

open Exa.Generated.PyAnnounce in
/-- **Accepted iff complete.**  An announce is accepted exactly when it has a next hop (FlowSpec excepted), labels when
    its SAFI carries labels and a route distinguisher when its SAFI carries one. -/
theorem announce_py_accepts_iff (notFlow nhUndefined safiHasLabel noLabel safiHasRd noRd : Bool) :
    Announce.validate_announce_nlri notFlow nhUndefined safiHasLabel noLabel safiHasRd noRd = none ↔
      ¬ (notFlow = true ∧ nhUndefined = true) ∧ ¬ (safiHasLabel = true ∧ noLabel = true) ∧
      ¬ (safiHasRd = true ∧ noRd = true) := by
  revert notFlow nhUndefined safiHasLabel noLabel safiHasRd noRd; decide

open Exa.Generated.PyAnnounce in
/-- **Which message.**  The missing next hop is reported first, then the missing labels, then the missing route
    distinguisher (the k-th message of the source). -/
theorem announce_py_reason (notFlow nhUndefined safiHasLabel noLabel safiHasRd noRd : Bool) :
    Announce.validate_announce_nlri notFlow nhUndefined safiHasLabel noLabel safiHasRd noRd =
      if notFlow && nhUndefined then some 1
      else if safiHasLabel && noLabel then some 2
      else if safiHasRd && noRd then some 3
      else none := by
  revert notFlow nhUndefined safiHasLabel noLabel safiHasRd noRd; decide

-- `route 10.0.0.0/24` (no next-hop): refused with the first message; a labelled VPN route with everything: accepted
example : Exa.Generated.PyAnnounce.Announce.validate_announce_nlri true true false false false false = some 1 := by decide +kernel
example : Exa.Generated.PyAnnounce.Announce.validate_announce_nlri true false true false true false = none := by decide +kernel

end Exa.Props.C18
