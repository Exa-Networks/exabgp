import ExaModel.Lemmas.Frame
import ExaModel.Lemmas.FramePy
import ExaModel.Lemmas.NegoSpec
/-!
# C06 — Message framing is independent of how TCP delivers the bytes

Statement (properties.jsonl): for any byte stream received and any way TCP splits or coalesces
it, the messages handed to the protocol layer are exactly the successive length-delimited
messages of the stream, each with its complete body and in order. A header whose marker is not
sixteen 0xFF bytes, or whose length is below 19, above the negotiated maximum (4096, or 65535
once extended messages are negotiated) or outside the bounds of its type, ends the session with
the Message Header Error NOTIFICATION for that fault (1/1, 1/2, and 1/3 for an unknown type) and
nothing after it is interpreted.

Model: `Exa.Frame` (M-Frame) — `Reader.feed` is what `Connection.reader_async` delivers when TCP
hands over one more chunk, `Reader.cancel` a read cancelled by the 0.1 s `wait_for` of
`Peer._main`, `Reader.setMax` the switch to the negotiated size. Constants and the per-type
length rule are generated from /repo (`Generated/MsgLength.lean`).
-/
namespace Exa.Props.C06
open Exa Exa.Frame Exa.Generated.MsgLength

/-- Events of the environment of the reader. -/
inductive Event where
  | chunk (bs : Bytes)
  | cancel
deriving Repr

def runEvents (r : Reader) : List Event → Reader × List Out
  | [] => (r, [])
  | .chunk bs :: es =>
    let (r1, o1) := r.feed bs
    let (r2, o2) := runEvents r1 es
    (r2, o1 ++ o2)
  | .cancel :: es => runEvents r.cancel es

def bytesOf : List Event → Bytes
  | [] => []
  | .chunk bs :: es => bs ++ bytesOf es
  | .cancel :: es => bytesOf es

/-- **The generated constants are the RFC 4271 / RFC 8654 ones.** (translator obligation: an edit
    of `Message.Length`, the marker, the header length or the two maximum sizes breaks this) -/
theorem msglength_is_rfc :
    lengthRules = [(1, Cmp.ge, 29), (2, Cmp.ge, 23), (3, Cmp.ge, 21), (4, Cmp.eq, 19), (5, Cmp.eq, 23)]
    ∧ defaultMin = 19 ∧ headerLen = 19 ∧ marker = List.replicate 16 255
    ∧ initialSize = 4096 ∧ extendedSize = 65535 := by decide

/-- **C06, segmentation independence (full statement).** Whatever the segmentation into reads,
    and wherever read cancellations (main-loop timeouts) fall, what is delivered — and the state
    the reader is left in — is what one read of the whole stream delivers. -/
theorem c06_independent (r : Reader) (hs : Stable r) (evs : List Event) :
    runEvents r evs = r.feed (bytesOf evs) := by
  induction evs generalizing r with
  | nil => simp [runEvents, bytesOf, feed_nil r hs]
  | cons e es ih =>
    cases e with
    | chunk bs =>
      simp only [runEvents, bytesOf]
      rw [feed_append, ih _ (stable_feed r bs)]
    | cancel =>
      simp only [runEvents, bytesOf, Reader.cancel]
      exact ih r hs

/-- The same for plain chunk lists (`feedAll`), from the initial state of a connection. -/
theorem c06_chunks (max : Nat) (chunks : List Bytes) :
    (Reader.init max).feedAll chunks = (Reader.init max).feed chunks.flatten :=
  feedAll_eq_feed _ (stable_init max) chunks

/-- **Exactly the successive length-delimited messages.** A stream that is the concatenation of
    valid messages is delivered as exactly those messages, in order, each with its complete
    body, nothing left over — for any number of messages of any sizes up to the maximum. -/
theorem c06_delivers_exactly (max : Nat) (h16 : max ≤ 65535) (ms : List (Nat × Bytes))
    (hv : ∀ m ∈ ms, ValidMsg max m) :
    (Reader.init max).feed (encodeAll ms) =
      ({ max := max, pend := [], dead := false }, ms.map (fun m => Out.msg m.1 m.2)) := by
  have := feed_init_encodeAll max h16 ms hv []
  rwa [List.append_nil, run_need (parse1_short (by decide)), List.append_nil] at this

/-- The header checks, in the order the code makes them, with the RFC 4271 §6.1 subcodes. The
    per-type length rule is not applied to a NOTIFICATION: an error in a NOTIFICATION is never
    answered with a NOTIFICATION (RFC 4271 §6.4, property C10), a truncated one still ends the
    session as a received NOTIFICATION. -/
theorem c06_header_errors (max : Nat) (h : Bytes) :
    hdrErr max h =
      if h.take 16 ≠ marker then some (1, 1)                       -- Connection Not Synchronized
      else if hdrLen h < headerLen ∨ hdrLen h > max then some (1, 2)   -- Bad Message Length (headerLen = 19)
      else if lengthValid (hdrTy h) (hdrLen h) = false ∧ hdrTy h ≠ 3 then some (1, 2)
      else none := by
  simp only [hdrErr, notificationType, Bool.not_eq_true]

/-- **The header decision of the model is the code's.** `Generated/PyFrame.lean` is the body of
    `Connection.reader_async` between the read of the header and the read of the body, translated statement
    by statement from /repo's source on every run (harness/pylite.py); on what M-Frame reads off the same 19
    octets, with the validator instantiated by the generated per-type table, it returns `(length, type)`
    exactly when `hdrErr` finds nothing, and raises exactly the code `hdrErr` gives otherwise — for every
    header and every negotiated maximum.  A changed comparison, bound, order of the tests or exemption in the
    reader breaks this obligation, whatever streams the correspondence happens to draw. -/
theorem c06_py_header_decision (max : Nat) (h : Bytes) :
    Exa.Generated.PyFrame.Connection.reader_async_header ⟨max⟩ (decide (h.take 16 ≠ marker)) (hdrTy h) (hdrLen h)
      (lengthValid (hdrTy h) (hdrLen h)) = liftHdr max h :=
  py_header_eq_model max h

/-- **The bound is the NEGOTIATED maximum** (C06 with C07): with the maximum the two OPENs negotiate
    (`Exa.Open.negotiate`, proved equal to the translated `Negotiated._negotiate` in Props/C07), a header
    is refused for its length alone (`hdrLen < 19` or above the bound) exactly when the length is below 19
    or above 65535-if-both-speakers-announced-Extended-Message-else-4096.  What copies that maximum to the connection
    (`Peer._establish`, after both OPENs) is checked on the real `Peer` by the stage *negotiated maximum* of the C06
    harness (findings F108, seed C06-8). -/
theorem c06_bound_is_negotiated (o t : Exa.Open.OpenMsg) (h : Bytes) :
    (hdrLen h < headerLen ∨ hdrLen h > (Exa.Open.negotiate o t).msgSize) ↔
      (hdrLen h < 19 ∨
        hdrLen h > (if o.caps.contains .extMsg && t.caps.contains .extMsg then 65535 else 4096)) := by
  rw [Exa.Open.negotiate_msgSize]
  rfl

/-- A header longer than the negotiated maximum is answered 1/2 (Bad Message Length), whatever its type. -/
theorem c06_over_negotiated_is_1_2 (o t : Exa.Open.OpenMsg) (h : Bytes) (hm : h.take 16 = marker)
    (hl : hdrLen h > (Exa.Open.negotiate o t).msgSize) :
    hdrErr (Exa.Open.negotiate o t).msgSize h = some (1, 2) := by
  unfold hdrErr
  simp [hm, hl]

/-- non-vacuity: a KEEPALIVE header passes, one with length 18 is refused with 1/2, a bad marker with 1/1 -/
example : liftHdr 4096 (marker ++ [0, 19, 4]) = .ret (19, 4) ⟨4096⟩ := by decide +kernel
example : liftHdr 4096 (marker ++ [0, 18, 4]) = .raise 1 2 := by decide +kernel
example : liftHdr 4096 (0 :: marker.drop 1 ++ [0, 19, 4]) = .raise 1 1 := by decide +kernel
example : liftHdr 4096 (marker ++ [0, 20, 4]) = .raise 1 2 := by decide +kernel
example : liftHdr 4096 (marker ++ [0, 20, 3]) = .ret (20, 3) ⟨4096⟩ := by decide +kernel

/-- **A faulty header after any valid messages ends the session with that error, and nothing after
    it is interpreted**: the valid messages are delivered, then the error, the reader is dead,
    and every later chunk produces nothing. -/
theorem c06_error_ends_session (max : Nat) (h16 : max ≤ 65535) (ms : List (Nat × Bytes))
    (hv : ∀ m ∈ ms, ValidMsg max m) (bad after : Bytes) (hlen : bad.length = 19)
    (c s : Nat) (herr : hdrErr max bad = some (c, s)) (later : Bytes) :
    let r := (Reader.init max).feed (encodeAll ms ++ (bad ++ after))
    r.2 = ms.map (fun m => Out.msg m.1 m.2) ++ [Out.err c s] ∧ r.1.dead = true ∧ (r.1.feed later).2 = [] := by
  intro r
  have hp : run max (bad ++ after) = ([Out.err c s], [], true) :=
    run_err (parse1_err_iff.2 ⟨by simp; omega, by rw [hdrErr_append max bad after (by omega), herr], rfl⟩)
  have hr : r = ({ max := max, pend := [], dead := true }, ms.map (fun m => Out.msg m.1 m.2) ++ [Out.err c s]) := by
    have := feed_init_encodeAll max h16 ms hv (bad ++ after)
    rwa [hp] at this
  rw [hr]
  exact ⟨rfl, rfl, congrArg Prod.snd (feed_dead rfl later)⟩

/-- Unknown message type: the reader delivers it (its length is ≥ 19), `read_message` answers
    Bad Message Type 1/3; the types the reactor decodes are exactly 1–6. -/
theorem c06_unknown_type (ty : Nat) (body : Bytes) :
    notifyOf (.msg ty body) = if ty ∈ [1, 2, 3, 4, 5, 6] then none else some (1, 3) := by
  have hk : ∀ t ∈ registeredTypes, t ∈ knownTypes := by decide
  by_cases h : ty ∈ registeredTypes
  · simp only [notifyOf, List.contains_iff_mem.2 h, List.contains_iff_mem.2 (hk ty h), Bool.and_self, if_true]
    exact (if_pos h).symm
  · simp only [notifyOf, List.contains_eq_mem, decide_eq_false h, Bool.and_false, Bool.false_eq_true, if_false]
    exact (if_neg h).symm

/-- Switching to the negotiated maximum at a message boundary keeps the reader stable, so
    `c06_independent` applies to the rest of the stream with the new maximum. -/
theorem c06_setmax_at_boundary (r : Reader) (hb : r.pend = []) (m : Nat) : Stable (r.setMax m) :=
  stable_of_pend_nil (r := r.setMax m) hb

/-! Non-vacuity: a KEEPALIVE split 10+9 with a cancellation in between, then an UPDATE split
    across three reads, on a 4096 session. -/
def ka : Bytes := encodeMsg 4 []
def upd : Bytes := encodeMsg 2 [0, 0, 0, 0]

example : ValidMsg 4096 (4, []) ∧ ValidMsg 4096 (2, [0, 0, 0, 0]) := by unfold ValidMsg; decide
example : (runEvents (Reader.init 4096)
    [.chunk (ka.take 10), .cancel, .chunk (ka.drop 10 ++ upd.take 5), .chunk (upd.drop 5 |>.take 3), .cancel,
     .chunk (upd.drop 8)]).2 = [Out.msg 4 [], Out.msg 2 [0, 0, 0, 0]] := by decide +kernel
example : hdrErr 4096 (marker ++ [16, 1, 2]) = some (1, 2) := by decide +kernel      -- length 4097 > 4096
example : hdrErr 65535 (marker ++ [16, 1, 2]) = none := by decide +kernel            -- fine once extended
example : hdrErr 4096 (marker ++ [0, 20, 4]) = some (1, 2) := by decide +kernel      -- KEEPALIVE of length 20
example : hdrErr 4096 (marker ++ [0, 20, 3]) = none := by decide +kernel             -- NOTIFICATION of length 20: not answered
example : hdrErr 4096 (List.replicate 15 255 ++ [254, 0, 19, 4]) = some (1, 1) := by decide +kernel

/-- a strict prefix of the reference encoding of a valid message is not yet a message -/
theorem parse1_strict_prefix (max ty : Nat) (body : Bytes) (k : Nat)
    (hmax : headerLen + body.length ≤ max) (h16 : max ≤ 65535)
    (hv : lengthValid ty (headerLen + body.length) = true)
    (hk : k < headerLen + body.length) :
    parse1 max ((encodeMsg ty body).take k) = .need := by
  have hfull := parse1_encode max ty body [] hmax h16 hv
  rw [List.append_nil, ← List.take_append_drop k (encodeMsg ty body)] at hfull
  refine parse1_need_of_append max _ _ ty body [] hfull ?_
  simp only [headerLen] at hk
  simp [encodeMsg_length]; omega

/-- **Each message with its complete body — never earlier, never lost.** After any number of
    valid messages, a message of which only a strict prefix has arrived (any cut: inside the
    marker, the length field, or the body) is not handed up, nothing is refused, and the reader
    holds exactly those bytes; the rest of the message, in any segmentation (`c06_independent`),
    completes it. -/
theorem c06_incomplete_tail_is_held (max : Nat) (h16 : max ≤ 65535) (ms : List (Nat × Bytes))
    (hv : ∀ m ∈ ms, ValidMsg max m) (m : Nat × Bytes) (hm : ValidMsg max m) (k : Nat)
    (hk : k < headerLen + m.2.length) :
    (Reader.init max).feed (encodeAll ms ++ (encodeMsg m.1 m.2).take k) =
      ({ max := max, pend := (encodeMsg m.1 m.2).take k, dead := false },
        ms.map (fun m => Out.msg m.1 m.2))
    ∧ ((Reader.init max).feed (encodeAll ms ++ (encodeMsg m.1 m.2).take k)).1.feed ((encodeMsg m.1 m.2).drop k)
      = ({ max := max, pend := [], dead := false }, [Out.msg m.1 m.2]) := by
  have hneed := parse1_strict_prefix max m.1 m.2 k hm.1 h16 hm.2 hk
  have h1 := feed_init_encodeAll max h16 ms hv ((encodeMsg m.1 m.2).take k)
  rw [run_need hneed, List.append_nil] at h1
  refine ⟨h1, ?_⟩
  have hone := c06_delivers_exactly max h16 [m] (by intro x hx; simp at hx; subst hx; exact hm)
  rw [h1, feed_alive rfl]
  rw [feed_alive rfl] at hone
  simpa [encodeAll, Reader.init] using hone

/-- non-vacuity: a KEEPALIVE, then an UPDATE cut inside its length field -/
example : ((Reader.init 4096).feed (encodeAll [(4, [])] ++ (encodeMsg 2 [0, 0, 0, 0]).take 17)).2 = [Out.msg 4 []] := by decide +kernel

end Exa.Props.C06
