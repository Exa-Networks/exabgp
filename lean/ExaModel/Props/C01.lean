import ExaModel.Lemmas.WireExaMain
/-!
# C01 — Sent UPDATEs say exactly what the operator asked for

Statement (properties.jsonl): for every route an operator can express in configuration or API text
and every kind of negotiated session (iBGP/eBGP, 2- or 4-byte AS support, ADD-PATH, extended next
hop, 4096 or 65535 byte messages), the UPDATE bytes ExaBGP emits decode under the RFC
4271/4760/7911/6793/8277/4364/8950 wire rules to exactly the requested prefixes, path identifiers,
labels, route distinguishers, next hop and attribute values. Attributes the operator did not give
take only the RFC defaults (ORIGIN IGP; AS_PATH empty on iBGP and the true local AS on eBGP;
LOCAL_PREF 100 on iBGP, and no LOCAL_PREF at all on eBGP), "next-hop self" becomes the local address
of that session, and AS numbers above 65535 go to 2-byte peers as AS_TRANS plus AS4_PATH.

How it is stated here.
* `encodeExa : SessParams → RouteReq → Out` (`Model/WireExa.lean`) is the model of ExaBGP's encoder
  (`parse_route_text` normalisation → `resolve_self` → `pack_attribute` → `pack_nlri` →
  `messages()`), tied to /repo by the correspondence run of `harness/props/C01.py` and by the
  generated table `Generated/ExaEncTable.lean`.
* `decodeUpdate` is M-Wire, the RFC reference decoder (proved exact in `Props/C02.lean`).
* `Meets p r u` (`Lemmas/WireExaSpec.lean`, unfolded by `meets_iff` below) is the property written
  pointwise on the DECODED message: one announced route with the family, next hop, path id (iff
  ADD-PATH send), labels, RD and prefix of the request; nothing withdrawn; and for EVERY attribute
  type code `c` the value the receiver ends up with (after the RFC 6793 reconstruction) is the one
  asked for, else the RFC default, else nothing.

FULL statement (`C01Full`): every well-formed request on every well-formed session, whenever an
UPDATE is emitted, decodes to a message that `Meets` the request. It is FALSE of the unchanged code in
four situations, each with a `decide`-checked witness below (replayed on the real code by the corpus
of `./check C01`): an IPv6 next hop for an IPv4 route without RFC 8950 negotiated, an IPv4 next hop
for an IPv6 route, `next-hop self` for an IPv4 route on an IPv6 session (the router id is sent), and
the link-local address appended to a VPN next hop (40 bytes). What is PROVED is
`c01_roundtrip_partial`: the full statement under `NextHopOk` (exactly the negation of those four
situations). The first two are behind the generated flag `nhFamilyGuard` (does `messages()` consult
`negotiated.nexthop`?): on a tree that leaves such routes out, the model does too, the hypothesis
about the next-hop family becomes vacuous and the two witnesses become vacuous implications.
Finding F4 (a 4-octet local AS seen as AS_TRANS) is repaired in /repo (000775c) for a speaker that announces
the 4-octet capability, and the model follows the repaired code; a 4-octet local AS with that capability
switched off is still seen as AS_TRANS (`negLocalAs`), and `WFSess` leaves such a session out
(`p.localAs > 65535 → p.sentAsn4 = true`). "IPv4 multicast in the NLRI field" is repaired in /repo and needs
no hypothesis.
-/
namespace Exa.Props.C01
open Exa Exa.Wire Exa.WireExa
open Exa.Generated.ExaEncTable

/-- The full statement of the property on the model. -/
def C01Full : Prop :=
  ∀ (p : SessParams) (r : RouteReq) (bs : Bytes), WFSess p → WFReq p r → encodeExa p r = .sent bs →
    ∃ u, decodeUpdate (paramsOf p) bs = .ok u ∧ Meets p r u

theorem meets_iff (p : SessParams) (r : RouteReq) (u : UpdateSem) :
    Meets p r u ↔
      ((report (paramsOf p) u).announce = [(r.afi, r.safi, wantNh p r, wantNlri p r)] ∧
       (report (paramsOf p) u).withdraw = [] ∧ (report (paramsOf p) u).eor = none ∧
       (∀ c, c ≠ 3 → SameOpt (reportAttr (paramsOf p) u c) (want p r c)) ∧
       (reportAttr (paramsOf p) u 3 = none ∨
         ((wantNh p r).length = 4 ∧ reportAttr (paramsOf p) u 3 = some (.nextHop (rd32 (wantNh p r)))))) :=
  Iff.rfl

/-- **C01, partial (every request of the grammar, every session of `WFSess`, no bound).** For every session of
    `WFSess` (iBGP or eBGP, 2- or 4-octet AS on either side — a 4-octet local AS only with the 4-octet capability
    announced —, any ADD-PATH / RFC 8950 family sets, any message size up to 65535, IPv4 or IPv6 transport, with
    or without a link-local address) and every
    route of the grammar (`WFReq`: AFI 1/2 × unicast, multicast, labelled, VPN; any mask, path id,
    label stack, RD; next hop address or `self`; any list of the eleven attribute keywords, in any
    order, repeated or not), whenever the encoder emits an UPDATE its bytes decode under the RFC
    reference decoder, and the decoded message meets the request pointwise.
    Missing for the full statement: the four next-hop situations excluded by `NextHopOk`. -/
theorem c01_roundtrip_partial (p : SessParams) (r : RouteReq) (bs : Bytes)
    (hs : WFSess p) (hw : WFReq p r) (hn : NextHopOk p r) (hsent : encodeExa p r = .sent bs) :
    ∃ u, decodeUpdate (paramsOf p) bs = .ok u ∧ Meets p r u := by
  obtain ⟨nh, hnh, hfam, hll, hself⟩ := hn
  exact ⟨_, roundtrip_sent p r bs nh hs hw hnh hfam hll hself hsent⟩

/-- **Defaults, spelled out** (instances of the attribute clause of `Meets`): an operator who gives no
    ORIGIN / AS_PATH / LOCAL_PREF gets ORIGIN IGP; AS_PATH empty on iBGP and exactly the true local AS
    on eBGP — also when that AS needs four octets and the peer is a 2-octet speaker (the receiver's
    RFC 6793 reconstruction is in `reportAttr`); LOCAL_PREF 100 on iBGP; and on eBGP no LOCAL_PREF at
    all, whatever was asked. -/
theorem c01_defaults (p : SessParams) (r : RouteReq) (u : UpdateSem) (h : Meets p r u) :
    (firstOf r.attrs 1 = none → reportAttr (paramsOf p) u 1 = some (.origin 0)) ∧
    (firstOf r.attrs 2 = none → p.localAs = p.peerAs → reportAttr (paramsOf p) u 2 = some (.asPath [])) ∧
    (firstOf r.attrs 2 = none → p.localAs ≠ p.peerAs →
      reportAttr (paramsOf p) u 2 = some (.asPath [(2, [p.localAs])])) ∧
    (firstOf r.attrs 5 = none → p.localAs = p.peerAs → reportAttr (paramsOf p) u 5 = some (.localPref 100)) ∧
    (p.localAs ≠ p.peerAs → reportAttr (paramsOf p) u 5 = none) := by
  obtain ⟨_, _, _, hattr, _⟩ := h
  -- `want` at a literal type code reduces to its branch; none of the values below is a community list
  have key : ∀ c, c ≠ 3 → ∀ v, want p r c = some v → (∀ y, v ≠ .communities y) → (∀ y, v ≠ .extCommunities y) →
      (∀ y, v ≠ .largeCommunities y) → reportAttr (paramsOf p) u c = some v :=
    fun c hc v e h8 h16 h32 => sameOpt_some_eq _ _ (e ▸ hattr c hc) h8 h16 h32
  refine ⟨fun h1 => ?_, fun h2 hi => ?_, fun h2 hi => ?_, fun h5 hi => ?_, fun hi => ?_⟩
  · refine key 1 (by decide) _ ?_ (fun y h => by cases h) (fun y h => by cases h) (fun y h => by cases h)
    show some (AttrVal.origin (wantOrigin r)) = _
    simp only [wantOrigin, h1]
  · refine key 2 (by decide) _ ?_ (fun y h => by cases h) (fun y h => by cases h) (fun y h => by cases h)
    show some (AttrVal.asPath (wantPath p r)) = _
    simp only [wantPath, h2, ibgp, hi, beq_self_eq_true, if_true]
  · refine key 2 (by decide) _ ?_ (fun y h => by cases h) (fun y h => by cases h) (fun y h => by cases h)
    show some (AttrVal.asPath (wantPath p r)) = _
    simp only [wantPath, h2, ibgp, beq_eq_false_iff_ne.2 hi, Bool.false_eq_true, if_false]
  · refine key 5 (by decide) _ ?_ (fun y h => by cases h) (fun y h => by cases h) (fun y h => by cases h)
    show (if ibgp p then some (AttrVal.localPref (wantLocalPref r)) else none) = _
    simp only [wantLocalPref, h5, ibgp, hi, beq_self_eq_true, if_true]
  · refine sameOpt_none _ ((?_ : want p r 5 = none) ▸ hattr 5 (by decide))
    show (if ibgp p then some (AttrVal.localPref (wantLocalPref r)) else none) = _
    simp only [ibgp, beq_eq_false_iff_ne.2 hi, Bool.false_eq_true, if_false]

/-- **next-hop self.** A message that meets a `next-hop self` request announces the route with the
    local address of the session. -/
theorem c01_self (p : SessParams) (r : RouteReq) (u : UpdateSem) (hself : r.nexthop = .self) (h : Meets p r u) :
    (report (paramsOf p) u).announce = [(r.afi, r.safi, p.localAddr, wantNlri p r)] := by
  have := h.1
  simpa [wantNh, hself] using this

/-- The encoder resolves `self` to the local address of the session whenever that address has the family of
    the route (`SelfOk`; the other case is `c01_full_fails_self_router_id`). -/
theorem c01_self_resolves (p : SessParams) (r : RouteReq) (hw : WFReq p r) (hself : r.nexthop = .self)
    (hok : SelfOk p r) : resolveNh p r = some p.localAddr :=
  resolveNh_self p r hw hself hok

/-- **next-hop self is per session.** The same request (one route written once, announced to several
    neighbours) sent on two sessions reaches each peer with THAT session's local address — whatever the other
    session's address, AS numbers or capabilities are. (Corollary of `c01_roundtrip_partial` and `c01_self`: the
    model is a function of (session, request). That the CODE is one too — no state carried from one neighbour to
    the next through the shared Route / attribute objects — is what the `shared-route` stream of the check tests,
    through the real `Configuration.announce_route` over several neighbours, in any order and repeatedly.) -/
theorem c01_self_per_session (p1 p2 : SessParams) (r : RouteReq) (bs1 bs2 : Bytes)
    (hs1 : WFSess p1) (hs2 : WFSess p2) (hw1 : WFReq p1 r) (hw2 : WFReq p2 r) (hself : r.nexthop = .self)
    (hn1 : NextHopOk p1 r) (hn2 : NextHopOk p2 r)
    (h1 : encodeExa p1 r = .sent bs1) (h2 : encodeExa p2 r = .sent bs2) :
    ∃ u1 u2, decodeUpdate (paramsOf p1) bs1 = .ok u1 ∧ decodeUpdate (paramsOf p2) bs2 = .ok u2 ∧
      (report (paramsOf p1) u1).announce = [(r.afi, r.safi, p1.localAddr, wantNlri p1 r)] ∧
      (report (paramsOf p2) u2).announce = [(r.afi, r.safi, p2.localAddr, wantNlri p2 r)] := by
  obtain ⟨u1, hd1, hm1⟩ := c01_roundtrip_partial p1 r bs1 hs1 hw1 hn1 h1
  obtain ⟨u2, hd2, hm2⟩ := c01_roundtrip_partial p2 r bs2 hs2 hw2 hn2 h2
  exact ⟨u1, u2, hd1, hd2, c01_self p1 r u1 hself hm1, c01_self p2 r u2 hself hm2⟩

/-- What AS_TRANS substitution is: every AS number above 65535 becomes 23456, the others stay. -/
theorem c01_trans_def (a : Nat) : transAsn a = if a > 65535 then 23456 else a := by
  simp [transAsn, isBig, asnMax2, exaAsTrans]

/-- **AS_TRANS + AS4_PATH (RFC 6793), on the attributes as they are on the wire.** On a 4-octet session
    AS_PATH is the requested (or default) path and there is no AS4_PATH. On a 2-octet session AS_PATH
    is that path with every AS number above 65535 replaced by 23456 (`c01_trans_def`), and AS4_PATH
    carries the true path exactly when the path contains such a number, else it is absent. -/
theorem c01_astrans (p : SessParams) (r : RouteReq) (bs : Bytes)
    (hs : WFSess p) (hw : WFReq p r) (hn : NextHopOk p r) (hsent : encodeExa p r = .sent bs) :
    ∃ u, decodeUpdate (paramsOf p) bs = .ok u ∧
      (p.asn4 = true → rawAttr u 2 = some (.asPath (wantPath p r)) ∧ rawAttr u 17 = none) ∧
      (p.asn4 = false →
        rawAttr u 2 = some (.asPath (transSegs (wantPath p r))) ∧
        rawAttr u 17 = if hasBig (wantPath p r) then some (.as4Path (wantPath p r)) else none) := by
  obtain ⟨nh, hnh, hfam, hll, hself⟩ := hn
  have hpl : plainSegs (wantPath p r) = wantPath p r := by
    rw [← modelPath_eq p r hs]; exact plainSegs_of_PathOk _ (modelPath_ok p r hs hw.2.2.2.2)
  have e2 : rawAttr (sentSem p r nh) 2 =
      some (.asPath (if p.asn4 then wantPath p r else transSegs (wantPath p r))) := by
    rw [rawAttr_sentSem p r nh 2 (Or.inl rfl), modelPath_eq p r hs, raw2_semAsPath]
  have e17 : rawAttr (sentSem p r nh) 17 =
      if p.asn4 then none else if hasBig (wantPath p r) then some (.as4Path (wantPath p r)) else none := by
    rw [rawAttr_sentSem p r nh 17 (Or.inr rfl), modelPath_eq p r hs, raw17_semAsPath, hpl]
  refine ⟨sentSem p r nh, (roundtrip_sent p r bs nh hs hw hnh hfam hll hself hsent).1, fun h4 => ?_, fun h4 => ?_⟩
  · rw [e2, e17, h4]; exact ⟨rfl, rfl⟩
  · rw [e2, e17, h4]; exact ⟨rfl, rfl⟩

/-- **A path with confederation segments on a 2-octet session (finding F99).**  With the confederation segments
    `c` in front (RFC 5065) and the AS_SEQUENCE / AS_SET segments `q` behind, the attributes `semAsPath` lists for
    the path (the ones `packAsPath` encodes, `packAsPath_eq`; `WFReq` admits no confederation segment, so the
    round trip above does not cover such a path) are: AS_PATH with the whole path and AS_TRANS for every AS number
    above 65535; AS4_PATH exactly when `q` holds such a number, carrying `q` only (RFC 6793 §3: no confederation
    segment in it). What the receiver's reconstruction (RFC 6793 §4.2.3, `merge6793`) makes of the two is `c` as it
    travelled followed by the true `q`; and when there is no AS4_PATH the AS_PATH already is that. -/
theorem c01_confed_path (p : SessParams) (c q : List Seg) (h4 : p.asn4 = false)
    (hc : ∀ s ∈ c, s.1 ≠ 1 ∧ s.1 ≠ 2) (hq : ∀ s ∈ q, (s.1 = 1 ∨ s.1 = 2) ∧ 1 ≤ s.2.length) :
    semAsPath p (c ++ q) =
      mk (paramsOf p) false true (.asPath (transSegs (c ++ q))) ::
        (if hasBig q then [mk (paramsOf p) true true (.as4Path q)] else []) ∧
    merge6793 (transSegs (c ++ q)) q = transSegs c ++ q ∧
    (hasBig q = false → transSegs (c ++ q) = transSegs c ++ q) := by
  have hpl : plainSegs (c ++ q) = q := plainSegs_confed_append c q hc (fun s hs => (hq s hs).1)
  refine ⟨?_, ?_, ?_⟩
  · simp [semAsPath, h4, hpl]
  · have := merge_trans_confed c q hc hq
    rwa [hpl] at this
  · intro hb
    have : transSegs q = q := transSegs_id q hb
    simp only [transSegs, List.map_append] at this ⊢
    rw [this]

-- {( 65001 300000 )} ( 200000 100 ): the confederation member above 65535 travels as AS_TRANS, the rest is whole
example : merge6793 (transSegs [(3, [65001, 300000]), (2, [200000, 100])]) (plainSegs [(3, [65001, 300000]), (2, [200000, 100])]) =
    [(3, [65001, 23456]), (2, [200000, 100])] := by decide +kernel

/-- **When nothing is announced.** The encoder raises exactly when the next hop does not resolve (`ip_self`
    refuses `next-hop self`: the session has no address of the route's family and the route is not IPv4).
    Rests on the generated `defaultPathAsn4 = true`: the default AS_PATH never raises. -/
theorem c01_raised_iff (p : SessParams) (r : RouteReq) :
    encodeExa p r = .raised ↔ resolveNh p r = none := by
  have ite_ne : ∀ (c : Prop) [Decidable c] (a b : Out), a ≠ .raised → b ≠ .raised → (if c then a else b) ≠ .raised :=
    fun c _ a b ha hb => by by_cases hc : c; rw [if_pos hc]; exact ha; rw [if_neg hc]; exact hb
  unfold encodeExa
  cases resolveNh p r with
  | none => exact ⟨fun _ => rfl, fun _ => rfl⟩
  | some nh =>
    -- after the default path (which never raises) every branch sends or sends nothing
    refine ⟨fun hr => absurd hr ?_, nofun⟩
    dsimp only
    rw [defaultPathRaises_false, if_neg Bool.false_ne_true]
    exact ite_ne _ _ _ nofun (ite_ne _ _ _ nofun (ite_ne _ _ _ nofun
      (ite_ne _ _ _ (ite_ne _ _ _ nofun nofun) (ite_ne _ _ _ nofun nofun))))

/-! ## Generated tables (re-extracted from /repo on every run) against the RFCs -/

/-- Every attribute class the packer emits has the Optional / Transitive bits RFC 4271 §5, RFC 1997,
    4360, 4456, 6793, 8092 give its type code (M-Wire's `specTable`), no Partial, no Extended Length
    in the class flag. -/
theorem c01_flags_rfc :
    ∀ row ∈ encFlags, flagSpec row.1 = some (row.2 / 128 % 2 == 1, row.2 / 64 % 2 == 1) ∧ row.2 % 64 = 0 := by
  decide +kernel

/-- Only IPv4 unicast is sent in the classic NLRI / WITHDRAWN ROUTES fields (RFC 4760 §1). -/
theorem c01_classic_only_unicast : classicSafisAnnounce = [1] ∧ classicSafisWithdraw = [1] := by decide

/-- The default AS_PATH is stored with 4-octet AS numbers, MP_REACH_NLRI is optional non-transitive
    type 14, values above 255 bytes get the Extended Length bit, AS_TRANS is 23456, a segment holds at
    most 255 AS numbers, the VPN next hop is preceded by an 8-byte zero RD, "no path id" is 0. -/
theorem c01_constants_rfc :
    defaultPathAsn4 = true ∧ mpFlag = 128 ∧ mpReachCode = 14 ∧ attrLenExtendedMax = 255 ∧ flagExtended = 16 ∧
    flagOptional = 128 ∧ exaAsTrans = Exa.Wire.asTrans ∧ asnMax2 = 65535 ∧ segmentMax = 255 ∧
    (∀ row ∈ nhRdSize, row.2.2 = if row.2.1 = 128 then 8 else 0) ∧ noPath = be32 0 := by
  decide +kernel

/-! ## Non-vacuity: a labelled VPN route with ADD-PATH on a 2-byte eBGP session -/

/-- eBGP 70000 → 65001, the peer does not speak 4-octet AS, ADD-PATH send for ipv4 mpls-vpn, 4096. -/
def pEx : SessParams :=
  { localAs := 70000, peerAs := 65001, sentAsn4 := true, asn4 := false, apSend := [(1, 128)], extnh := [],
    msgSize := 4096, localAddr := [10, 255, 0, 1], routerId := [9, 9, 9, 9], linkLocal := none }

/-- `route 10.0.0.0/24 next-hop self path-information 7 label [ 100 200 ] rd 65000:1
     as-path [ 65000 4200000000 ] community [ 30:30 10:10 ] med 5 aggregator ( 70000:1.2.3.4 )` -/
def rEx : RouteReq :=
  { afi := 1, safi := 128, plen := 24, pfx := [10, 0, 0], pathId := some 7, labels := [100, 200],
    rd := [0, 0, 253, 232, 0, 0, 0, 1], nexthop := .self,
    attrs := [.asPath [(2, [65000, 4200000000])], .communities [1966110, 655370], .med 5,
              .aggregator 70000 16909060] }

/-- What the encoder sends (`[]` when it sends nothing) and what the reference decoder makes of it. -/
def sentOf (p : SessParams) (r : RouteReq) : Bytes :=
  match encodeExa p r with
  | .sent b => b
  | _ => []

def decodedOf (p : SessParams) (r : RouteReq) : UpdateSem :=
  match decodeUpdate (paramsOf p) (sentOf p r) with
  | .ok u => u
  | .error _ => ⟨[], [], []⟩

example : WFSess pEx := by
  refine ⟨by simp [U32, pEx], by decide, by decide, by decide, by decide, by decide, by decide, by decide, by decide, by decide, ?_⟩
  intro ll h; cases h

example : WFReq pEx rEx := by
  refine ⟨by decide, by decide, by decide, trivial, ?_⟩
  unfold rEx
  simp only [List.forall_mem_cons, List.not_mem_nil, false_implies, implies_true, WFReqAttr, U32]
  decide

example : NextHopOk pEx rEx := by
  refine ⟨[10, 255, 0, 1], by decide, ?_, ?_, ?_⟩
  · intro _; exact ⟨fun _ => Or.inl rfl, fun h => by cases h⟩
  · intro h; cases h
  · intro _; exact ⟨fun _ => rfl, fun h => by cases h⟩

/-- The encoder does emit an UPDATE for it … -/
example : encodeExa pEx rEx = .sent (sentOf pEx rEx) ∧ (sentOf pEx rEx).length = 117 := by decide +kernel

/-- … which the reference decoder reads as AS_PATH [65000, 23456] + AS4_PATH [65000, 4200000000]
    (reconstructed: [65000, 4200000000]), AGGREGATOR 23456 + AS4_AGGREGATOR 70000 (reconstructed: 70000),
    and an ipv4 mpls-vpn route with path id 7, two labels, the RD and the local address as next hop. -/
example : decodeUpdate (paramsOf pEx) (sentOf pEx rEx) = .ok (decodedOf pEx rEx) ∧
    rawAttr (decodedOf pEx rEx) 2 = some (.asPath [(2, [65000, 23456])]) ∧
    rawAttr (decodedOf pEx rEx) 17 = some (.as4Path [(2, [65000, 4200000000])]) ∧
    reportAttr (paramsOf pEx) (decodedOf pEx rEx) 2 = some (.asPath [(2, [65000, 4200000000])]) ∧
    reportAttr (paramsOf pEx) (decodedOf pEx rEx) 7 = some (.aggregator 70000 16909060) ∧
    (report (paramsOf pEx) (decodedOf pEx rEx)).announce =
      [(1, 128, [10, 255, 0, 1], ⟨some 7, [100, 200], [0, 0, 253, 232, 0, 0, 0, 1], 24, [10, 0, 0]⟩)] := by
  decide +kernel

/-! ## Why the full statement is false of the unchanged code (each witness is replayed on /repo by
      `corpus/C01/*.json`) -/

def pPlain : SessParams :=
  { localAs := 65000, peerAs := 65001, sentAsn4 := true, asn4 := true, apSend := [], extnh := [],
    msgSize := 4096, localAddr := [10, 255, 0, 1], routerId := [9, 9, 9, 9], linkLocal := none }

def nh6 : Bytes := [32, 1, 13, 184, 0, 0, 0, 0, 0, 0, 0, 0, 0, 0, 0, 1]

/-- `route 10.0.0.0/8 next-hop 2001:db8::1` -/
def rExtNh : RouteReq :=
  { afi := 1, safi := 1, plen := 8, pfx := [10], pathId := none, labels := [], rd := [],
    nexthop := .v6 nh6, attrs := [] }

/-- On a session without RFC 8950 ExaBGP sends it as MP_REACH_NLRI (AFI 1) with a 16-byte next hop,
    which a receiver that did not negotiate extended next hop must reject (UPDATE Message Error 3/9). -/
theorem c01_full_fails_ext_nexthop :
    WFReq pPlain rExtNh ∧ (nhFamilyGuard = false →
      encodeExa pPlain rExtNh = .sent (sentOf pPlain rExtNh) ∧
      decodeUpdate (paramsOf pPlain) (sentOf pPlain rExtNh) = .error (3, 9)) := by
  refine ⟨?_, by decide +kernel⟩
  exact ⟨by decide, by decide, by decide, ⟨by decide, by decide⟩, fun a h => by cases h⟩

/-- `route 2001:db8::/32 next-hop 1.2.3.4` -/
def rV4NhV6 : RouteReq :=
  { afi := 2, safi := 1, plen := 32, pfx := [32, 1, 13, 184], pathId := none, labels := [], rd := [],
    nexthop := .v4 [1, 2, 3, 4], attrs := [] }

/-- An IPv6 route is sent with a 4-byte next hop (3/9). -/
theorem c01_full_fails_v4_nexthop_v6_route :
    WFReq pPlain rV4NhV6 ∧ (nhFamilyGuard = false →
      encodeExa pPlain rV4NhV6 = .sent (sentOf pPlain rV4NhV6) ∧
      decodeUpdate (paramsOf pPlain) (sentOf pPlain rV4NhV6) = .error (3, 9)) := by
  refine ⟨?_, by decide +kernel⟩
  exact ⟨by decide, by decide, by decide, ⟨by decide, by decide⟩, fun a h => by cases h⟩

/-- The same session over IPv6 transport. -/
def pV6 : SessParams := { pPlain with localAddr := nh6 }

/-- `route 10.0.0.0/8 next-hop self` -/
def rSelf : RouteReq :=
  { afi := 1, safi := 1, plen := 8, pfx := [10], pathId := none, labels := [], rd := [],
    nexthop := .self, attrs := [] }

/-- On an IPv6 session the NEXT_HOP sent for it is the router id 9.9.9.9, not an address of the session. -/
theorem c01_full_fails_self_router_id :
    WFReq pV6 rSelf ∧ encodeExa pV6 rSelf = .sent (sentOf pV6 rSelf) ∧
    decodeUpdate (paramsOf pV6) (sentOf pV6 rSelf) = .ok (decodedOf pV6 rSelf) ∧
    (report (paramsOf pV6) (decodedOf pV6 rSelf)).announce = [(1, 1, [9, 9, 9, 9], ⟨none, [], [], 8, [10]⟩)] := by
  refine ⟨?_, by decide +kernel⟩
  exact ⟨by decide, by decide, by decide, trivial, fun a h => by cases h⟩

/-- With the link-local next-hop capability and a local link-local address fe80::c01 … -/
def pLL : SessParams :=
  { pPlain with linkLocal := some [254, 128, 0, 0, 0, 0, 0, 0, 0, 0, 0, 0, 0, 0, 12, 1] }

/-- `route 2001:db8::/32 next-hop 2001:db8::1 label 3 rd 65000:1` -/
def rVpn6 : RouteReq :=
  { afi := 2, safi := 128, plen := 32, pfx := [32, 1, 13, 184], pathId := none, labels := [3],
    rd := [0, 0, 253, 232, 0, 0, 0, 1], nexthop := .v6 nh6, attrs := [] }

/-- … it is sent with a 40-byte next hop (zero RD + global + link-local); RFC 4659 §3.2.1 allows 24 or 48 (3/9). -/
theorem c01_full_fails_link_local_vpn :
    WFReq pLL rVpn6 ∧ encodeExa pLL rVpn6 = .sent (sentOf pLL rVpn6) ∧
    decodeUpdate (paramsOf pLL) (sentOf pLL rVpn6) = .error (3, 9) := by
  refine ⟨?_, by decide +kernel⟩
  exact ⟨by decide, by decide, by decide, ⟨by decide, by decide⟩, fun a h => by cases h⟩

/-- Hence the full statement does not hold of the model of the unchanged code (the link-local VPN next
    hop alone refutes it, whatever the tree does about next-hop families). -/
theorem c01_full_fails : ¬ C01Full := by
  intro h
  obtain ⟨hw, hsent, hdec⟩ := c01_full_fails_link_local_vpn
  have hs : WFSess pLL := by
    refine ⟨by simp [U32, pLL, pPlain], by decide, by decide, by decide, by decide, by decide, by decide, by decide,
      by decide, by decide, ?_⟩
    intro ll hl
    simp only [pLL, Option.some.injEq] at hl
    subst hl; rfl
  obtain ⟨u, hu, _⟩ := h pLL rVpn6 _ hs hw hsent
  rw [hdec] at hu
  cases hu

end Exa.Props.C01
