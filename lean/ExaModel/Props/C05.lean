import ExaModel.Lemmas.SessionCheck
import ExaModel.Lemmas.PeerPy
import ExaModel.Generated.FsmTable
/-!
# C05 — the session state machine only takes RFC 4271 transitions

Statement (properties.jsonl): under every interleaving of connection events, received messages,
timer expiries and API teardown or reload requests, a peer session moves only along the RFC 4271
state transitions; it reaches ESTABLISHED only after sending its OPEN, receiving and validating
the peer OPEN and receiving a KEEPALIVE, and it sends no UPDATE, End-of-RIB or ROUTE-REFRESH in
any other state.  Whenever it leaves a connected state the transport is closed, and on the API
every "up" of a neighbor is followed by a "down" before its next "up".

Model: `Exa.Session` (M-Session): `run (init cfg rib) evs` executes ANY list of events (no bound);
the trace is everything `Peer` did: FSM changes `fsm a b`, writes `send c kind state`, `close c`,
API `up` / `down`.  The model follows the coroutine of `peer.py`, including the fact that
`handle_connection` and `_stop` replace `peer.proto` under a suspended coroutine (finding F30).
`FSM.transition` is not enforced by `FSM.change()` (`table_not_enforced`), so the table theorem
alone would say nothing: the trace theorems carry the property.
-/
namespace Exa.Props.C05
open Exa Exa.Session

/-- `FSM.STATE` values (checked against the generated table below). -/
def ofValue : Nat → Option Fsm
  | 1 => some .idle | 2 => some .active | 4 => some .connect
  | 8 => some .opensent | 16 => some .openconfirm | 32 => some .established
  | _ => none

/-- one row `(to, [from, ...])` of `FSM.transition` only lists RFC 4271 §8.2.2 transitions. -/
def rowOk (row : Nat × List Nat) : Bool :=
  row.2.all fun f =>
    match ofValue f, ofValue row.1 with
    | some a, some b => decide ((a, b) ∈ rfcTable)
    | _, _ => false

/-- the state names and values in the source are the six RFC 4271 states the model uses. -/
theorem states_are_rfc :
    Generated.FsmTable.states =
      [("IDLE", 1), ("ACTIVE", 2), ("CONNECT", 4), ("OPENSENT", 8), ("OPENCONFIRM", 16), ("ESTABLISHED", 32)] := rfl

/-- **the table in the source is a subset of the RFC 4271 §8.2.2 table** (generated from
    `FSM.transition` on every run; editing the table in /repo breaks this). -/
theorem table_subset_rfc : ∀ row ∈ Generated.FsmTable.transition, rowOk row = true := by decide

/-- `FSM.change()` does not enforce the table: the check is commented out. (If it becomes
    enforced this obligation breaks and the model must be revisited.) -/
theorem table_not_enforced : Generated.FsmTable.enforced = false := rfl

/-- the trace of a run from the initial state. -/
abbrev trace (cfg : Cfg) (rib : Bool) (evs : List Event) : List Out := (run (init cfg rib) evs).2

/-- **C05, transitions (full).** Whatever the events and their order, every change of the FSM
    variable the peer makes is a transition of RFC 4271 §8.2.2. -/
theorem only_rfc_transitions (cfg : Cfg) (rib : Bool) (evs : List Event) :
    ∀ a b, Out.fsm a b ∈ trace cfg rib evs → (a, b) ∈ rfcTable := by
  obtain ⟨g, h⟩ := run_accepted cfg rib evs
  exact accepted_fsm_rfc h

/-- The `from` of each change really is the state the previous changes led to, as is the state
    every write is labelled with (so `only_rfc_transitions` and `send_only_established` speak about
    the true state). -/
theorem labels_are_the_state (cfg : Cfg) (rib : Bool) (evs : List Event) (xs ys : List Out) (o : Out)
    (h : trace cfg rib evs = xs ++ o :: ys) :
    (∀ a b, o = .fsm a b → a = fsmAfter .idle xs) ∧ (∀ c k st, o = .send c k st → st = fsmAfter .idle xs) := by
  obtain ⟨g, hg⟩ := run_accepted cfg rib evs
  rw [show (run (init cfg rib) evs).2 = _ from h] at hg
  exact accepted_labels hg

/-- **C05, ESTABLISHED (full).** In every reachable state, ESTABLISHED means: there is a
    connection, the coroutine is in the main loop on that connection, our OPEN was written on it,
    the peer's OPEN was read from it and validated, and a KEEPALIVE was read from it after that. -/
theorem established_requires (cfg : Cfg) (rib : Bool) (evs : List Event) :
    let s := (run (init cfg rib) evs).1
    s.fsm = .established →
      ∃ k, s.conn = some k ∧ s.pc = .mainLoop k.id ∧ k.openSent = true ∧ k.openRecv = true ∧ k.kaRecv = true := by
  intro s hf
  have hinv : Inv s := run_inv evs _ (inv_init cfg rib)
  obtain ⟨k, hk, hp⟩ := hinv.established hf
  obtain ⟨_, h1, h2, h3⟩ := hinv.main k.id k hp hk rfl
  exact ⟨k, hk, hp, h1, h2, h3⟩

/-- **C05, no UPDATE / End-of-RIB / ROUTE-REFRESH outside ESTABLISHED (full).** For every list of
    events, every write of one of these kinds is labelled ESTABLISHED (and by `labels_are_the_state`
    the label is the FSM state at that moment).  Until /repo 3a62d00 this was false (F30 family,
    F88): the main loop of a session whose transport had been dropped by `shutdown()` went on
    writing on a connection adopted meanwhile; it now ends with `Interrupted`. -/
theorem send_only_established (cfg : Cfg) (rib : Bool) (evs : List Event) :
    ∀ c k st, Out.send c k st ∈ trace cfg rib evs → isData k = true → st = .established := by
  obtain ⟨g, h⟩ := run_accepted cfg rib evs
  exact accepted_data_established h

def plain : Cfg := { passive := false, maxAttempts := 0, hold0 := false, graceful := false }

/-- F88 repaired: `shutdown()`, `reestablish()` re-arms the peer, an incoming connection is adopted
    before the old loop's next iteration — which now writes nothing on it and closes it
    (`corpus/C05/f30-refresh-in-idle-rearmed.json`). -/
example :
    (step (run (init plain false) [.start, .connectOk, .recv 1 (.openOk false), .recv 1 .keepalive, .queueRefresh, .stop,
        .reestablish, .incoming]).1 .tick).2 = [.fsm .idle .idle, .close 2] := rfl

/-- the same run without `reestablish()`: the stopped peer refuses the connection (/repo 4250e99). -/
example :
    (step (run (init plain false) [.start, .connectOk, .recv 1 (.openOk false), .recv 1 .keepalive, .queueRefresh, .stop]).1
      .incoming).2 = [.reject 2, .close 2] := rfl

/-- **C05, leaving a connected state (full, as a state invariant).** In every reachable state in
    which the FSM is not in CONNECT / OPENSENT / OPENCONFIRM / ESTABLISHED, the peer holds no
    transport on which it has spoken: `peer.proto` is absent or a connection just adopted on which
    nothing was written.  (That a transport the model drops — in `closeConn`, at a failed write in `sendOn`,
    at the replacement in `connectOk` — is closed is `transports_closed_or_current`.) -/
theorem leave_closes (cfg : Cfg) (rib : Bool) (evs : List Event) :
    let s := (run (init cfg rib) evs).1
    isConnected s.fsm = false → ∀ k, s.conn = some k → k.openSent = false := by
  intro s hf k hk
  have hinv : Inv s := run_inv evs _ (inv_init cfg rib)
  refine hinv.quietFresh ?_ k hk
  cases hs : s.fsm <;> simp [hs, isConnected] at hf ⊢

/-- Every connection the peer ever had (ids 1, 2, … in order of creation) is either
    `peer.proto` now or was closed: its `close` is in the trace.  With `leave_closes`: outside the
    connected states every transport on which the peer ever wrote has been closed. -/
theorem transports_closed_or_current (cfg : Cfg) (rib : Bool) (evs : List Event) :
    let s := (run (init cfg rib) evs).1
    ∀ i, 0 < i → i < s.nextId → (∃ k, s.conn = some k ∧ k.id = i) ∨ Out.close i ∈ trace cfg rib evs := by
  intro s i h0 hi
  exact run_transports_accounted cfg rib evs i h0 hi

/-- **C05, API (full).** Between two `up` of the neighbor there is a `down`. -/
theorem up_down_alternate (cfg : Cfg) (rib : Bool) (evs : List Event) (xs ys zs : List Out)
    (h : trace cfg rib evs = xs ++ Out.up :: ys ++ Out.up :: zs) : Out.down ∈ ys := by
  obtain ⟨g, hg⟩ := run_accepted cfg rib evs
  rw [show (run (init cfg rib) evs).2 = _ from h] at hg
  exact accepted_up_down hg

/-- **The model is the code** (an incoming connection): `Peer.handle_connection`, translated statement by
    statement from /repo on this run (`harness/pylite.py` → `Generated/PyPeer.lean`) and run on the state of
    M-Session, refuses the connection exactly when the model's `refuses` holds — with NOTIFICATION 6/3 when
    `stop()` ran, 6/7 otherwise (ESTABLISHED, or OPENCONFIRM and the peer's identifier is the lower one) — and
    otherwise adopts it after closing the connection in hand exactly when there was one (the result's fields are
    `_restart`, `proto`, `closed`).  The trace theorems
    above go through `handleConnection`, which branches on `refuses`: a dropped test, a swapped comparison of
    the identifiers or a changed order in the code breaks this obligation directly. -/
theorem handle_connection_py_is_model (s : State) :
    (refuses s = true → pyHandle s = .raise 6 (if (!s.restart && s.teardown.isSome) then 3 else 7)) ∧
    (refuses s = false → pyHandle s = .ret () ⟨s.restart, true, s.conn.isSome⟩) :=
  py_handle_refuses s

/-- **The model is the code** (`exabgp.tcp.attempts`): `Peer.can_reconnect`, translated from /repo on this run,
    computes `canReconnect` of the model (0 = unlimited) and changes nothing. -/
theorem can_reconnect_py_is_model (s : State) :
    Generated.PyPeer.Attempts.can_reconnect ⟨s.cfg.maxAttempts, s.attempts⟩ =
      .ret (canReconnect s) ⟨s.cfg.maxAttempts, s.attempts⟩ := by
  unfold Generated.PyPeer.Attempts.can_reconnect canReconnect
  by_cases h : s.cfg.maxAttempts = 0
  · simp [h]
  · have h' : ((s.cfg.maxAttempts : Int) == 0) = false := by simp; omega
    have h'' : (s.cfg.maxAttempts == 0) = false := by simpa using h
    simp [h', h'']

/-- **The model is the code** (the end of a session): `Peer._reset`, translated from /repo on this run, for a neighbor
    that is not ephemeral (the model has none): the connection is closed (`_close`) whatever the state; the pending
    teardown is forgotten and the RIB reset exactly when the peer restarts — compare `resetP` of the model
    (`teardown := none`, `refreshQ := 0` under `restart`; `resetP_fst`). -/
theorem reset_py_is_model (restart teardownSet : Bool) :
    Generated.PyPeer.Reset._reset ⟨restart, teardownSet, false, false⟩ false =
      .ret () ⟨restart, (if restart then false else teardownSet), true, restart⟩ := by
  cases restart <;> rfl

/-- **The model is the code** (`teardown`, `reestablish`, `stop` — what the API and the reactor ask of a peer):
    the three methods, translated from /repo on this run, leave `_teardown` / `_restart` exactly as the model's
    `.teardown code`, `.reestablish` and `stopP` do; `stop` also sends the FSM to IDLE (the `true` of the last `ctl`),
    as `stopP` does (`py_stop_eq_model`). -/
theorem control_py_is_model (s : State) (code : Nat) :
    Generated.PyPeer.Control.teardown (ctl s false) code true = .ret () (ctl (react s (.teardown code)).1 false) ∧
    Generated.PyPeer.Control.reestablish (ctl s false) = .ret () (ctl (react s .reestablish).1 false) ∧
    Generated.PyPeer.Control.stop (ctl s false) = .ret () (ctl (stopP s).1 true) :=
  ⟨py_teardown_eq_model s code, py_reestablish_eq_model s, (py_stop_eq_model s).1⟩

/-- **The model is the code** (leaving a session): `Peer._close`, translated from /repo on this run and run on the
    state of M-Session, calls `processes.down` exactly when the FSM is beyond ACTIVE and the neighbor reports its
    changes, sends the FSM to IDLE, closes the connection in hand exactly when there is one and leaves none — and
    `closeP` of the model writes `down` exactly then (API process alive), ends in IDLE without a connection and
    emits `close` exactly then.  `leave_closes` and `up_down_alternate` above go through `closeP`. -/
theorem close_py_is_model (s : State) :
    pyClose s = .ret () ⟨false, (!(s.fsm == .idle || s.fsm == .active)) && s.cfg.changes, true, s.conn.isSome⟩ ∧
    (Out.down ∈ (closeP s).2 ↔ ((!(s.fsm == .idle || s.fsm == .active)) && s.cfg.changes) = true ∧ s.dead = false) ∧
    (closeP s).1.fsm = .idle ∧ (closeP s).1.conn = none ∧
    ((∃ i, Out.close i ∈ (closeP s).2) ↔ s.conn.isSome = true) :=
  ⟨py_close_result s, (py_close_is_closeP s).1, (py_close_is_closeP s).2.1, (py_close_is_closeP s).2.2.1,
    (py_close_is_closeP s).2.2.2.1⟩

/-- a whole session: establishment, routes and End-of-RIB in ESTABLISHED, teardown with cease, restart. -/
example :
    trace plain true [.start, .connectOk, .recv 1 (.openOk false), .recv 1 .keepalive, .tick, .teardown 4, .tick, .start] =
      [.fsm .idle .active, .fsm .active .idle, .fsm .idle .connect, .send 1 .open .connect, .fsm .connect .opensent,
       .fsm .opensent .openconfirm, .send 1 .keepalive .openconfirm, .fsm .openconfirm .established, .up,
       .send 1 .update .established, .send 1 .eor .established,
       .send 1 (.notification 6 4) .established, .down, .fsm .established .idle, .close 1,
       .fsm .idle .active, .fsm .active .idle] := rfl

/-- two sessions: `up`, `down`, `up` again. -/
example :
    (trace plain false [.start, .connectOk, .recv 1 (.openOk false), .recv 1 .keepalive, .eof 1, .start, .connectOk,
      .recv 2 (.openOk true), .recv 2 .keepalive]).filter (fun o => o = .up ∨ o = .down) = [.up, .down, .up] := rfl

/-- the translated method on two reachable states: ESTABLISHED refuses with 6/7; OPENCONFIRM with the peer's
    identifier higher than ours adopts the incoming connection and closes the one in hand -/
example : pyHandle { cfg := plain, fsm := .established, conn := some { id := 1 } } = .raise 6 7 := rfl
example : pyHandle { cfg := plain, fsm := .openconfirm, conn := some { id := 1, idLow := false } } = .ret () ⟨true, true, true⟩ := rfl
example : pyHandle { cfg := plain, fsm := .openconfirm, conn := some { id := 1, idLow := true } } = .raise 6 7 := rfl
example : pyHandle { cfg := plain, fsm := .idle, restart := false, teardown := some 3 } = .raise 6 3 := rfl

/-! ### what the trace checker guarantees of ANY trace it accepts

`chkAll true g0` is run (driver op `session chk`) on the traces observed from the real `Peer` under configurations
M-Session does not model (`local-as auto`, `peer-as auto`): the step-by-step comparison does not apply there, these
theorems do — they speak of every accepted list of outputs, wherever it comes from. -/

/-- **An accepted trace satisfies C05**: every FSM change is an RFC 4271 transition and starts from the state the
    trace before it leads to; UPDATE, End-of-RIB and ROUTE-REFRESH are only written in ESTABLISHED, and every write
    carries the state of that moment; between two `up` of the API there is a `down`. -/
theorem accepted_trace_satisfies (os : List Out) (g' : G) (h : chkAll true g0 os = some g') :
    (∀ a b, Out.fsm a b ∈ os → (a, b) ∈ rfcTable) ∧
    (∀ c k st, Out.send c k st ∈ os → isData k = true → st = .established) ∧
    (∀ xs ys a b, os = xs ++ Out.fsm a b :: ys → a = fsmAfter .idle xs) ∧
    (∀ xs ys c k st, os = xs ++ Out.send c k st :: ys → st = fsmAfter .idle xs) ∧
    (∀ xs ys zs, os = xs ++ Out.up :: ys ++ Out.up :: zs → Out.down ∈ ys) := by
  refine ⟨accepted_fsm_rfc h, accepted_data_established h, ?_, ?_, ?_⟩
  · intro xs ys a b e; subst e
    exact (accepted_labels h).1 a b rfl
  · intro xs ys c k st e; subst e
    exact (accepted_labels h).2 c k st rfl
  · intro xs ys zs e; subst e
    exact accepted_up_down h

-- the checker is not vacuous: it refuses a trace that reaches ESTABLISHED from OPENSENT, and one that writes an
-- UPDATE in OPENCONFIRM
example : chkAll true g0 [.fsm .idle .connect, .fsm .connect .opensent, .fsm .opensent .established] = none := rfl
example : (chkAll true g0 [.fsm .idle .connect, .fsm .connect .opensent, .fsm .opensent .openconfirm,
    .send 1 .update .openconfirm]).isNone = true := rfl

end Exa.Props.C05
