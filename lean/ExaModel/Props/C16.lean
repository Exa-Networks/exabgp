import ExaModel.Lemmas.FlowExaDecode
import ExaModel.Generated.FlowTable
/-!
# C16 — FlowSpec rules mean on the wire what they say in text

Statement (properties.jsonl): every FlowSpec rule expressible in configuration or API text is
encoded per RFC 8955/8956: components in ascending type order, end-of-list set on exactly the
last operator of each component, AND bits as written, each value in the shortest allowed width,
the NLRI length in one byte below 240 and two bytes (0xFnnn) from 240 to 4095, the route
distinguisher first for flow-vpn, and traffic actions mapped to the RFC extended communities.
Every well-formed FlowSpec NLRI decodes to the rule an RFC reference decoder extracts, and an
NLRI with an undefined component or a truncated value is never delivered as a shorter, broader rule.

Model: `Exa.Flow` (M-Flow, `Model/Flow.lean`).
* `Rule = List Comp`; `encodeFlow`/`decodeFlow`/`encodeNlri`/`decodeNlri` are the RFC 8955/8956
  reference codec written from the wire layouts (not from ExaBGP); the raw layer
  (`RawComp`, `encodeRaw`, `decodeRaw`) is the byte grammar.
* `exaPack`/`exaDecode` model what `flow.py` does (dict by ID + `sorted`, EOL rewrite, width by
  class, `Flow.add`, `_encode_length`, `unpack_nlri`); `exaAction` the then-clause mapping.
* Generated table `Generated/FlowTable.lean` (component IDs, operator family, `VALUE_SIZES`, bit
  constants, length constants, community codes) is re-extracted from /repo on every run.

What the unchanged tree gets wrong is *not* hidden in hypotheses: `GoodText` (the texts for which
ExaBGP's encoder is proved to be the RFC encoder) leaves out IPv6 offsets ≠ 0, values above
the RFC width (refused by the parser), repeated/mixed-family prefixes, non-canonical host bits, operator
flags other than the ones the text parser builds (`GoodPair`) and an AND on the first operator of a
component (`GoodText.firstAnd`), and the `example`s at the end of the file exhibit the model's (and, by the correspondence run, the code's) behaviour on
those inputs.
-/
namespace Exa.Props.C16
open Exa Exa.Flow

/-- **Round trip (rule).** The reference decoder is a left inverse of the reference encoder on
    every well-formed rule: nothing a rule says is lost or altered by the wire format. -/
theorem flow_roundtrip (v6 : Bool) (r : Rule) (h : WFRule v6 r) : decodeFlow v6 (encodeFlow r) = .ok r := by
  simp only [decodeFlow, decodeRaw_encodeFlow v6 r h.1, map_toRaw_ty, h.2, if_true, map_interp_toRaw v6 r h.1]

/-- **Round trip (NLRI).** With length prefix and (flow-vpn) route distinguisher, followed by
    any further bytes of the UPDATE: exactly the NLRI is consumed and the same rule comes back. -/
theorem nlri_roundtrip (v6 vpn : Bool) (x : Nlri) (rest : Bytes) (h : WFNlri v6 vpn x) :
    decodeNlri v6 vpn (encodeNlri x ++ rest) = .ok (x, rest) := by
  obtain ⟨hr, hlen, hrd⟩ := h
  obtain ⟨rd, rule⟩ := x
  simp only [decodeNlri, encodeNlri, splitNlri_encode _ rest hlen]
  cases vpn with
  | false =>
    simp only [Bool.false_eq_true, if_false] at hrd ⊢
    subst hrd
    simp only [nlriPayload, Option.getD_none, List.nil_append, flow_roundtrip v6 rule hr]
  | true =>
    simp only [if_true] at hrd ⊢
    obtain ⟨rd, rfl, hl⟩ := hrd
    obtain ⟨ht, hd⟩ := take_drop_left hl (encodeFlow rule)
    rw [show nlriPayload ⟨some rd, rule⟩ = rd ++ encodeFlow rule from rfl,
      if_neg (by simp only [List.length_append]; omega), ht, hd, flow_roundtrip v6 rule hr]

/-- **Ascending type order.** Reading the encoding of a well-formed rule as a sequence of
    components gives one raw component per rule component, and the type octets met on the wire
    are strictly ascending: the encoder writes the components in the order given, which `WFRule` asks to
    be ascending (that the rule of a text is so ordered is `good_text_wellformed`). -/
theorem ordered (v6 : Bool) (r : Rule) (h : WFRule v6 r) :
    ∃ rc, decodeRaw v6 (encodeFlow r) = .ok rc ∧ rc.map RawComp.ty = r.map Comp.ty ∧
      ascending (rc.map RawComp.ty) = true :=
  ⟨r.map toRaw, decodeRaw_encodeFlow v6 r h.1, map_toRaw_ty r, by rw [map_toRaw_ty]; exact h.2⟩

/-- **End-of-list on exactly the last operator.** In the operator list written for a component
    (`toRawTerms`, whose concatenation is the component's bytes), operator `i` carries the
    end-of-list bit iff it is the last one; and there is one operator per term. -/
theorem eol_last_only (ts : List Term) (i : Nat) (h : i < ts.length) :
    (toRawTerms ts).length = ts.length ∧
    opEol ((toRawTerms ts)[i]'(by rw [toRawTerms_length]; exact h)).op = decide (i + 1 = ts.length) := by
  rw [toRawTerms_getElem ts i h]
  exact ⟨toRawTerms_length ts, (toRawTerm_op _ _).1⟩

/-- **AND bits as written** (and the comparison bits too): operator `i` on the wire carries
    exactly the flags of term `i`. -/
theorem and_bits_preserved (ts : List Term) (i : Nat) (h : i < ts.length) :
    let op := ((toRawTerms ts)[i]'(by rw [toRawTerms_length]; exact h)).op
    opAnd op = ts[i].andBit ∧ opLt op = ts[i].lt ∧ opGt op = ts[i].gt ∧ opEq op = ts[i].eq ∧ op < 256 := by
  rw [toRawTerms_getElem ts i h]
  exact (toRawTerm_op _ _).2.imp_right fun h => h.2

/-- **Shortest allowed width.** The value of term `i` is written in `w` bytes where `w` is the
    width the operator announces, the value fits in `w` bytes and reads back, no shorter width of
    1, 2, 4, 8 holds it, and for a value the component allows (`< 256 ^ maxWidth ty`) `w` is one
    of the component's allowed widths (`≤ maxWidth ty`). -/
theorem shortest_width (ty : Nat) (ts : List Term) (i : Nat) (h : i < ts.length)
    (hv : ts[i].value < 256 ^ maxWidth ty) :
    let rt := (toRawTerms ts)[i]'(by rw [toRawTerms_length]; exact h)
    rt.val.length = opWidth rt.op ∧ ts[i].value < 256 ^ rt.val.length ∧ rdN rt.val = ts[i].value ∧
    (∀ w, w = 1 ∨ w = 2 ∨ w = 4 ∨ w = 8 → ts[i].value < 256 ^ w → rt.val.length ≤ w) ∧
    rt.val.length ≤ maxWidth ty ∧ WFBytes rt.val := by
  have hb : ts[i].value < 18446744073709551616 := by have := maxWidth_bound ty _ hv; omega
  rw [toRawTerms_getElem ts i h]
  intro rt
  rw [toRawTerm_width, (toRawTerm_op _ _).2.2.1]
  exact ⟨rfl, widthCode_fits _ hb, rdN_beN_lt (widthCode_fits _ hb), fun w => widthCode_min _ w,
    widthCode_allowed ty _ hv, wf_beN _ _⟩

/-- **Length switch at 240.** One octet below 240; two octets `0xFn nn` from 240 to 4095, whose
    first octet lies in `0xF0..0xFF` and whose 12 low bits are the length; the field is made of
    bytes, announces exactly the payload length, and the reference decoder splits on it. -/
theorem length_switch_240 (n : Nat) (h : n < 4096) :
    (n < 240 → lengthPrefix n = [n]) ∧
    (240 ≤ n → lengthPrefix n = [240 + n / 256, n % 256] ∧ 240 + n / 256 < 256 ∧
      (240 + n / 256) % 16 * 256 + n % 256 = n) ∧
    WFBytes (lengthPrefix n) ∧ LenField rfcHi (lengthPrefix n) n ∧
    (∀ p rest : Bytes, p.length = n → splitNlri rfcHi (lengthPrefix n ++ p ++ rest) = .ok (p, rest)) := by
  refine ⟨lengthPrefix_small n, ?_, wf_lengthPrefix n h, lenField_lengthPrefix n h, ?_⟩
  · intro h240; exact ⟨lengthPrefix_big n h240, (twoOctet_arith n h240 h).1, (twoOctet_arith n h240 h).2.2⟩
  · intro p rest hp; subst hp; exact splitNlri_encode p rest h

/-- **Route distinguisher first.** For flow-vpn the payload is the 8 RD bytes followed by the
    components, the length field counts both, and the decoder hands back those 8 bytes as the RD. -/
theorem rd_first (v6 : Bool) (rd : Bytes) (r : Rule) (rest : Bytes) (hrd : rd.length = 8)
    (h : WFRule v6 r) (hlen : 8 + (encodeFlow r).length < 4096) :
    encodeNlri ⟨some rd, r⟩ = lengthPrefix (8 + (encodeFlow r).length) ++ (rd ++ encodeFlow r) ∧
    decodeNlri v6 true (encodeNlri ⟨some rd, r⟩ ++ rest) = .ok (⟨some rd, r⟩, rest) := by
  refine ⟨?_, ?_⟩
  · simp [encodeNlri, nlriPayload, hrd]
  · apply nlri_roundtrip
    refine ⟨h, ?_, ?_⟩
    · simp [nlriPayload, hrd]; omega
    · exact ⟨rd, rfl, hrd⟩

/-- **Only complete NLRIs of defined components are accepted.** If the reference decoder returns
    a rule for `bs` then `bs` is exactly: a length field, a payload of exactly the announced
    length, and the rest; the payload is (for flow-vpn) 8 RD bytes followed by a sequence of
    *complete* components — every type defined for the family, every prefix with all its pattern
    bytes, every operator with all the value bytes it announces, every operator list closed by
    its end-of-list bit on its last operator only (`CompShape`) — in strictly ascending type
    order, and the rule is the meaning of precisely those components.  So a payload that ends
    inside a value, or contains an undefined component, is never read as a shorter rule. -/
theorem truncated_or_undefined_rejected (v6 vpn : Bool) (bs : Bytes) (x : Nlri) (rest : Bytes)
    (h : decodeNlri v6 vpn bs = .ok (x, rest)) :
    ∃ lp rdb rc, bs = lp ++ (rdb ++ encodeRaw rc) ++ rest ∧ LenField rfcHi lp (rdb ++ encodeRaw rc).length ∧
      (if vpn then rdb.length = 8 ∧ x.rd = some rdb else rdb = [] ∧ x.rd = none) ∧
      (∀ c ∈ rc, CompShape v6 rfcP6 c) ∧ ascending (rc.map RawComp.ty) = true ∧ x.rule = rc.map (interp v6) := by
  obtain ⟨payload, hsplit, hlen, hrd, hflow⟩ := decodeNlri_ok h
  obtain ⟨lp, hbs, hlf⟩ := splitNlri_sound _ _ _ _ hsplit
  obtain ⟨rc, e1, e2, e3, e4⟩ := decodeFlow_sound _ _ _ hflow
  have hp : payload = (if vpn then payload.take 8 else []) ++ encodeRaw rc := by
    rw [← e1]; cases vpn <;> simp
  refine ⟨lp, if vpn then payload.take 8 else [], rc, by rw [← hp]; exact hbs, by rw [← hp]; exact hlf, ?_, e2, e3, e4⟩
  cases vpn with
  | false => exact ⟨rfl, hrd⟩
  | true => exact ⟨by simp only [if_true, List.length_take]; simp at hlen; omega, hrd⟩

/-- **Undefined component.** Whatever complete components precede it and whatever follows, a
    type octet the family does not define makes the whole payload an error — the components
    parsed so far are not delivered. -/
theorem undefined_component_rejected (v6 : Bool) (pre : List RawComp) (t : Nat) (tail : Bytes)
    (hpre : ∀ c ∈ pre, CompShape v6 rfcP6 c) (ht : kindOf v6 t = none) :
    decodeFlow v6 (encodeRaw pre ++ t :: tail) = .error .undefinedType :=
  decodeFlow_prefix_error v6 pre _ _ hpre (decodeComps_undefined v6 rfcP6 t tail ht)

/-- **Truncated value.** A payload whose last operator announces more value bytes than remain is
    an error, whatever complete components and complete operators precede it. -/
theorem truncated_value_rejected (v6 : Bool) (pre : List RawComp) (ty : Nat) (ts : List RawTerm) (op : Nat)
    (val : Bytes) (hpre : ∀ c ∈ pre, CompShape v6 rfcP6 c)
    (hk : kindOf v6 ty = some .numeric ∨ kindOf v6 ty = some .bitmask) (hts : TermsOpen ts)
    (hshort : val.length < opWidth op) :
    decodeFlow v6 (encodeRaw pre ++ ty :: (ts.flatMap encodeRawTerm ++ op :: val)) = .error .valueShort :=
  decodeFlow_prefix_error v6 pre _ _ hpre
    (decodeComps_open_ops v6 rfcP6 ty ts (op :: val) .valueShort hk hts (decodeOps_short op val hshort))

/-- **Missing end-of-list.** A payload that ends inside an operator list (no operator carried the
    end-of-list bit) is an error. -/
theorem missing_eol_rejected (v6 : Bool) (pre : List RawComp) (ty : Nat) (ts : List RawTerm)
    (hpre : ∀ c ∈ pre, CompShape v6 rfcP6 c)
    (hk : kindOf v6 ty = some .numeric ∨ kindOf v6 ty = some .bitmask) (hts : TermsOpen ts) :
    decodeFlow v6 (encodeRaw pre ++ ty :: ts.flatMap encodeRawTerm) = .error .noEol := by
  have := decodeFlow_prefix_error v6 pre _ _ hpre (decodeComps_open_ops v6 rfcP6 ty ts [] .noEol hk hts decodeOps_nil)
  rwa [List.append_nil] at this

/-- **Truncated NLRI.** If fewer bytes follow the length field than it announces, nothing is decoded. -/
theorem short_buffer_rejected (v6 vpn : Bool) (n : Nat) (body : Bytes) (h : n < 4096) (hshort : body.length < n) :
    decodeNlri v6 vpn (lengthPrefix n ++ body) = .error .lengthShort := by
  simp only [decodeNlri, splitNlri_lenField _ _ _ (lenField_lengthPrefix n h), if_pos hshort]

/-- **Actions are the RFC extended communities.** Every action is 8 bytes, the first two are the
    type/subtype the RFCs assign (RFC 8955 §7: 0x8006 traffic-rate-bytes, 0x800c
    traffic-rate-packets, 0x8007 traffic-action, 0x8008 / 0x8108 / 0x8208 rt-redirect, 0x8009
    traffic-marking; drafts: 0x0800, 0x010c), and the fields are recovered by the reference reader. -/
theorem action_communities (a : Action) (h : WFAction a) :
    (encodeAction a).length = 8 ∧ WFBytes (encodeAction a) ∧ decodeAction (encodeAction a) = some a ∧
    (encodeAction a).take 2 =
      (match a with
       | .rateBytes _ _ => [0x80, 0x06] | .ratePackets _ _ => [0x80, 0x0c] | .trafficAction _ _ => [0x80, 0x07]
       | .redirectAS2 _ _ => [0x80, 0x08] | .redirectIP4 _ _ => [0x81, 0x08] | .redirectAS4 _ _ => [0x82, 0x08]
       | .mark _ => [0x80, 0x09] | .nexthopSimpson _ => [0x08, 0x00] | .nexthopIetf4 _ _ => [0x01, 0x0c]) :=
  ⟨action_length a, action_wf a h, action_roundtrip a h, by cases a <;> rfl⟩

/-- traffic-action bits: sample is bit 46 (0x02 of the last octet), terminal bit 47 (0x01);
    traffic-marking keeps the DSCP in the six low bits of the last octet; discard is rate 0. -/
theorem action_fields (s t : Bool) (d : Nat) (hd : d < 64) :
    encodeAction (.trafficAction s t) = [0x80, 0x07, 0, 0, 0, 0, 0, b2n s * 2 + b2n t] ∧
    encodeAction (.mark d) = [0x80, 0x09, 0, 0, 0, 0, 0, d] ∧ d % 64 = d ∧
    exaAction .discard = some (.rateBytes 0 0) ∧ encodeAction (.rateBytes 0 0) = [0x80, 0x06, 0, 0, 0, 0, 0, 0] :=
  ⟨rfl, rfl, Nat.mod_eq_of_lt hd, rfl, rfl⟩

/-- the text actions the parser accepts map to well-formed communities; of the two rate limits only the
    shape is stated (AS 0, rate `f32OfNat n`) -/
theorem text_actions_wellformed (ta : TAction) (a : Action) (h : exaAction ta = some a)
    (hip : match ta with | .redirectNexthopIetf ip => ip < 4294967296 | _ => True)
    : WFAction a ∨ ∃ n, a = .rateBytes 0 (f32OfNat n) ∨ a = .ratePackets 0 (f32OfNat n) := by
  have hip' : ∀ ip, ta = .redirectNexthopIetf ip → ip < 4294967296 := by rintro ip rfl; exact hip
  clear hip; revert h
  fun_cases exaAction ta <;> intro h <;> cases h
  case case1 => exact .inl ⟨by decide, by decide⟩  -- discard
  case case2 => exact .inr ⟨_, .inl rfl⟩  -- rate-limit in bytes
  case case3 => exact .inr ⟨_, .inr rfl⟩  -- rate-limit in packets
  case case6 | case8 => exact .inl ⟨by omega, by omega⟩  -- the two redirects the parser accepts
  case case10 => exact .inl (by simp only [WFAction]; omega)  -- mark
  case case16 ip => exact .inl (hip' ip rfl)  -- redirect-to-nexthop-ietf
  all_goals exact .inl trivial  -- traffic-action and the Simpson next hops carry no number

open Exa.Generated.FlowTable in
/-- **Component table.** IDs, operator family and allowed value sizes registered in the code
    (`flow.decode`, `flow.factory`, `VALUE_SIZES`) are the RFC 8955/8956 table, for both families. -/
theorem table_matches_rfc : table4 = specTable false ∧ table6 = specTable true := by
  exact ⟨rfl, rfl⟩

/-- the RFC table is what `kindOf` / `maxWidth` (used by every theorem above) say, for both families,
    and a type is defined iff it is 1–12, or 13 for IPv6 -/
theorem spec_table_consistent :
    (∀ v6 : Bool, ∀ r ∈ specTable v6,
      (kindOf v6 r.1).map Kind.code = some r.2.1 ∧ (r.2.1 ≠ 0 → r.2.2 = widthsUpTo (maxWidth r.1))) ∧
    (∀ v6 : Bool, ∀ t : Nat, (kindOf v6 t).isSome = true ↔ (1 ≤ t ∧ t ≤ 12) ∨ (t = 13 ∧ v6 = true)) :=
  ⟨by decide, kindOf_isSome⟩

open Exa.Generated.FlowTable in
/-- operator bit constants, value-width table and length constants of the code are the ones the
    models are written with (`opByte`, `opWidth`, `exaEncodeLength`, `exaHi`) -/
theorem code_constants :
    opEOL = opByte true false 0 false false false ∧ opAND = opByte false true 0 false false false ∧
    opLEN = 3 * 16 ∧ numLT = opByte false false 0 true false false ∧ numGT = opByte false false 0 false true false ∧
    numEQ = opByte false false 0 false false true ∧ binNOT = numGT ∧ binMATCH = numEQ ∧
    power = [0, 1, 2, 3].map (fun c => (c, opWidth (c * 16))) ∧
    (∀ n, exaEncodeLength n =
      if n < lengthCompactMax then .ok [n] else if n ≤ lengthExtendedMax then .ok [lengthExtendedValue + n / 256, n % 256]
      else .error .tooLong) ∧
    (∀ n, exaHi n = n * 2 ^ lengthExtendedShift) ∧ lengthExtendedMask = 0xF0 ∧ lengthLowerMask = 0x0F :=
  ⟨rfl, rfl, rfl, rfl, rfl, rfl, rfl, rfl, rfl, fun _ => rfl, fun _ => rfl, rfl, rfl⟩

open Exa.Generated.FlowTable in
/-- the community codes of `traffic.py` are the RFC ones the model encodes (the two IPv6-specific
    20-byte communities are outside the 8-byte model) -/
theorem action_codes_generated :
    (actionCodes.filter (fun r => r.2.2.2 == 8)).map (fun r => (r.1, r.2.1, r.2.2.1)) =
      [("TrafficAction", 0x80, 0x07), ("TrafficMark", 0x80, 0x09), ("TrafficNextHopIPv4IETF", 0x01, 0x0c),
       ("TrafficNextHopSimpson", 0x08, 0x00), ("TrafficRate", 0x80, 0x06), ("TrafficRatePackets", 0x80, 0x0c),
       ("TrafficRedirect", 0x80, 0x08), ("TrafficRedirectASN4", 0x82, 0x08)] := by
  rfl

open Exa.Generated.FlowTable in
/-- the widths the code's encoder classes can write cover the RFC widths -/
theorem generated_sizes_ok : SizesOk Exa.Generated.FlowTable.sizeOf := by
  have h : ∀ id < 14, 3 ≤ id → (Exa.Generated.FlowTable.sizeOf id = 1 ∨ Exa.Generated.FlowTable.sizeOf id = 2 ∨ Exa.Generated.FlowTable.sizeOf id = 4) ∧
      maxWidth id ≤ Exa.Generated.FlowTable.sizeOf id := by decide
  exact fun id h1 h2 => h id (by omega) h1

/-- the text → rule mapping gives a well-formed rule for every good text -/
theorem good_text_wellformed (v6 : Bool) (text : List TComp) (hg : GoodText v6 text) : WFRule v6 (toRule v6 text) := by
  refine ⟨fun c hc => ?_, ?_⟩
  · obtain ⟨id, _, hc⟩ := List.mem_flatMap.1 hc
    exact (compOfGroup_good v6 text id hg c hc).2
  · -- one component per ID, of that type, and the IDs ascend
    rw [ascending_iff, List.pairwise_map, toRule, List.pairwise_flatMap]
    refine ⟨fun id _ => compOfGroup_pairwise _ v6 id _, (by decide : allIds.Pairwise (· < ·)).imp fun hab x hx y hy => ?_⟩
    rw [(compOfGroup_good v6 text _ hg x hx).1, (compOfGroup_good v6 text _ hg y hy).1]
    exact hab

/-- **ExaBGP's encoder is the RFC encoder on good text.** For every text whose components the
    RFCs can express (`GoodText`: one family, at most one source and one destination, canonical
    prefixes with offset 0, values within the RFC width, any number of operator keywords in any
    order, repeated operator keywords), with or without route distinguisher, up to 4095 bytes:
    `Flow.pack_nlri` as modelled (dict by ID, `sorted`, EOL rewrite, width by encoder class of the
    generated table) emits exactly the reference encoding of the rule the text denotes, in the
    family of its prefixes. -/
theorem exa_pack_reference (v6 hint6 : Bool) (rd : Option Bytes) (text : List TComp) (hg : GoodText v6 text)
    (hlen : (nlriPayload ⟨rd, toRule v6 text⟩).length ≤ 4095) :
    exaPack Exa.Generated.FlowTable.sizeOf hint6 rd text
      = .ok (exaFamily hint6 text, encodeNlri ⟨rd, toRule v6 text⟩) :=
  exaPack_good _ v6 hint6 rd text generated_sizes_ok hg hlen

/-- … in the family of its prefixes when it has one (without a prefix: IPv6 iff an IPv6-only keyword is used) -/
theorem exa_pack_family (v6 hint6 : Bool) (text : List TComp) (hg : GoodText v6 text)
    (hp : text.any (fun c => c.isPrefix) = true) : exaFamily hint6 text = v6 :=
  exaFamily_good v6 hint6 text hg.comps hp

/-- **What is sent means what was written.** Under the same hypotheses the RFC reference decoder of
    family `v6` applied to the bytes ExaBGP's encoder emits (followed by anything) returns the rule as
    written in text, the route distinguisher as written, and consumes exactly the NLRI.  That `v6` is
    the family the encoder reports is `exa_pack_family`, for a text with a prefix. -/
theorem exa_pack_meaning (v6 vpn hint6 : Bool) (rd : Option Bytes) (text : List TComp) (rest : Bytes)
    (hg : GoodText v6 text) (hlen : (nlriPayload ⟨rd, toRule v6 text⟩).length ≤ 4095)
    (hrd : if vpn then ∃ b, rd = some b ∧ b.length = 8 else rd = none) :
    ∃ fam bs, exaPack Exa.Generated.FlowTable.sizeOf hint6 rd text = .ok (fam, bs) ∧
      decodeNlri v6 vpn (bs ++ rest) = .ok (⟨rd, toRule v6 text⟩, rest) := by
  refine ⟨_, _, exa_pack_reference v6 hint6 rd text hg hlen, ?_⟩
  apply nlri_roundtrip
  exact ⟨good_text_wellformed v6 text hg, by omega, hrd⟩

/-- ExaBGP reads the two-octet length as the RFC does (`FLOW_LENGTH_EXTENDED_SHIFT = 8`, tied to the
    code by `code_constants`) -/
theorem exa_length_is_rfc (n : Nat) : exaHi n = rfcHi n := congrFun exaHi_eq_rfcHi n

/-! ## ExaBGP's decoder against the reference decoder

`exaDecode` is the model of `Flow.unpack_nlri` + `_parse_rules` (tied to the code by the decode
correspondence run); `exaDelivered` is the rule a consumer reads from what it returns (operators
through `exaStoredOp`, i.e. what `_parse_operations` stores).  The only side condition is the open
finding F46: no IPv6 prefix with a non-zero offset (`NoOffset` on the reference's rule, `NoOffsetRaw`
on what the code delivers) — the code reads `ceil(length/8)` address bytes there, RFC 8956
`length - offset` pattern bits.  For IPv4 there is no side condition at all. -/

/-- **(a) Every well-formed NLRI decodes in the code to the rule the reference extracts (partial: F46).**
    Full statement: `decodeNlri v6 vpn bs = .ok (x, rest) → ∃ rc, exaDecode v6 vpn bs = .ok x.rd rc rest ∧
    rc.map (exaDelivered v6) = x.rule`.  It is false of the code exactly when the rule holds an IPv6
    prefix with offset ≠ 0 (witness below), so it is proved under `NoOffset x.rule`: then the model of
    the code accepts, leaves the same bytes unread, returns the same route distinguisher, and the rule
    it delivers is the reference's rule, component for component, operator for operator. -/
theorem exa_decode_agrees_reference_partial (v6 vpn : Bool) (bs : Bytes) (x : Nlri) (rest : Bytes)
    (h : decodeNlri v6 vpn bs = .ok (x, rest)) (h0 : NoOffset x.rule) :
    ∃ rc, exaDecode v6 vpn bs = .ok x.rd rc rest ∧ rc.map (exaDelivered v6) = x.rule := by
  obtain ⟨payload, hsplit, hlen, hrd, hflow⟩ := decodeNlri_ok h
  obtain ⟨rc, d1, d2, d3⟩ := exa_body_of_reference v6 _ x.rule hflow h0
  refine ⟨rc, ?_, d3⟩
  have hlen' : (vpn && decide (payload.length < 8)) = false := by simpa using hlen
  simp only [exaDecode_eq, hsplit, hlen', Bool.false_eq_true, if_false, d1, d2, hrd]

/-- **(b) The code delivers only what the reference accepts — or an out-of-order NLRI (partial: F46).**
    Whenever the model of the code returns a rule (without offset), the reference decoder either
    returns exactly that rule, route distinguisher and rest, or rejects the NLRI for one reason only:
    its components are not in strictly ascending order (the code keeps them in a dict by ID and never
    checks the order; it then delivers all of them, regrouped — nothing is dropped). -/
theorem exa_decode_only_reference_partial (v6 vpn : Bool) (bs : Bytes) (rd : Option Bytes) (cs : List RawComp)
    (rest : Bytes) (h : exaDecode v6 vpn bs = .ok rd cs rest) (h0 : NoOffsetRaw cs) :
    decodeNlri v6 vpn bs = .ok (⟨rd, cs.map (exaDelivered v6)⟩, rest) ∨ decodeNlri v6 vpn bs = .error .order := by
  obtain ⟨payload, cs0, hsplit, hlen, rfl, rfl, hcs0⟩ := exaDecode_ok h
  simp only [decodeNlri_eq, hsplit, if_neg hlen]
  rcases reference_body_of_exa v6 _ cs0 hcs0 h0 with hb | hb
  · left; simp only [hb]
  · right; simp only [hb]

/-- **(b) read the other way: what the reference rejects as truncated or undefined is never delivered as a
    rule (partial: F46).**
    If the reference rejects `bs` for any reason other than component order — empty, length field
    running past the buffer, flow-vpn payload shorter than a route distinguisher, undefined component
    type, prefix length out of range, prefix or value running past the payload, missing end-of-list —
    then the model of the code does not return a rule (`NLRI.INVALID` or a raised Notify), unless what
    it returns contains an IPv6 prefix with a non-zero offset (F46). -/
theorem exa_decode_rejects_malformed_partial (v6 vpn : Bool) (bs : Bytes) (e : Err)
    (h : decodeNlri v6 vpn bs = .error e) (he : e ≠ .order)
    (rd : Option Bytes) (cs : List RawComp) (rest : Bytes) (hx : exaDecode v6 vpn bs = .ok rd cs rest) :
    ¬ NoOffsetRaw cs := by
  intro h0
  rcases exa_decode_only_reference_partial v6 vpn bs rd cs rest hx h0 with h' | h'
  · rw [h] at h'; cases h'
  · rw [h] at h'; simp only [Except.error.injEq] at h'; exact he h'

/-- **IPv4: (a) and (b) with no side condition.** When the reference accepts an IPv4 NLRI the model of
    the code returns the same rule, route distinguisher and rest; when the model of the code returns a
    rule, the reference returns the same or rejects the NLRI only for component order. -/
theorem exa_decode_agrees_reference_ipv4 (vpn : Bool) (bs : Bytes) :
    (∀ x rest, decodeNlri false vpn bs = .ok (x, rest) →
      ∃ rc, exaDecode false vpn bs = .ok x.rd rc rest ∧ rc.map (exaDelivered false) = x.rule) ∧
    (∀ rd cs rest, exaDecode false vpn bs = .ok rd cs rest →
      decodeNlri false vpn bs = .ok (⟨rd, cs.map (exaDelivered false)⟩, rest) ∨
      decodeNlri false vpn bs = .error .order) :=
  ⟨fun x rest h => exa_decode_agrees_reference_partial false vpn bs x rest h (noOffset_of_reference_v4 vpn bs x rest h),
   fun rd cs rest h =>
    exa_decode_only_reference_partial false vpn bs rd cs rest h (noOffsetRaw_of_exaDecode_v4 vpn bs rd cs rest h)⟩

/-- the stored operator (`exaStoredOp`) read back is the RFC meaning of the operator byte: reserved
    bits dropped, the AND bit of the first operator unset -/
theorem stored_operator_meaning (numeric first : Bool) (op : Nat) (val : Bytes) :
    storedTerm numeric (exaStoredOp numeric first op) val = interpTerm numeric first ⟨op, val⟩ :=
  storedTerm_exaStoredOp numeric first op val

/-- a rule with a prefix, a numeric list with AND and a two-byte value, and a bitmask: well-formed -/
def sampleRule : Rule :=
  [.prefix4 1 24 0x0A0000, .ops 3 [⟨false, false, false, true, 6⟩],
   .ops 5 [⟨false, false, false, true, 80⟩, ⟨false, false, true, false, 1024⟩, ⟨true, true, false, false, 2048⟩],
   .ops 9 [⟨false, false, false, true, 0x12⟩]]

example : WFRule false sampleRule := by decide
example : encodeFlow sampleRule = [1, 24, 10, 0, 0, 3, 0x81, 6, 5, 0x01, 80, 0x12, 4, 0, 0xd4, 8, 0, 9, 0x81, 0x12] := by decide +kernel
example : decodeFlow false (encodeFlow sampleRule) = .ok sampleRule := by decide +kernel
example : WFNlri false true ⟨some [0, 0, 0xfd, 0xe8, 0, 0, 0, 1], sampleRule⟩ :=
  ⟨by decide, by decide, ⟨_, rfl, rfl⟩⟩
/-- RFC 8956 §3.8.2: source ::1234:5678:9a00:0/64-104 is `02 68 40 12 34 56 78 9a` -/
example : encodeFlow [.prefix6 2 104 64 0x123456789a] = [2, 0x68, 0x40, 0x12, 0x34, 0x56, 0x78, 0x9a] := by decide +kernel
example : WFRule true [.prefix6 2 104 64 0x123456789a] := by decide
example : decodeFlow true [2, 0x68, 0x40, 0x12, 0x34, 0x56, 0x78, 0x9a] = .ok [.prefix6 2 104 64 0x123456789a] := by decide +kernel
/-- hypotheses of the rejection theorems are satisfiable: destination 10/8 then type 13 in IPv4; a
    port operator announcing 2 bytes with 1 left; an operator list without end-of-list -/
example : decodeFlow false [1, 8, 10, 13, 0x81, 5] = .error .undefinedType := by decide +kernel
example : decodeFlow false [1, 8, 10, 5, 0x91, 0x50] = .error .valueShort := by decide +kernel
example : decodeFlow false [1, 8, 10, 5, 0x01, 0x50] = .error .noEol := by decide +kernel
example : decodeNlri false false [4, 1, 8, 10] = .error .lengthShort := by decide +kernel
example : lengthPrefix 239 = [0xef] ∧ lengthPrefix 240 = [0xf0, 0xf0] ∧ lengthPrefix 4095 = [0xff, 0xff] := by decide +kernel
example : f32OfNat 9600 = 0x46160000 ∧ f32OfNat 16777217 = 0x4b800000 ∧ f32OfNat 1000000000000 = 0x5368d4a5 := by decide +kernel

/-- a good text (out of order, repeated keyword, AND chain): `GoodText` is satisfiable -/
def sampleText : List TComp :=
  [.op 5 1 80, .prefix4 1 0x0A000000 24, .op 3 1 6, .op 5 2 1024, .op 5 (0x40 + 4) 2048]

example : GoodText false sampleText := by
  refine ⟨?_, ?_, firstAnd_of_lt sampleText 6 (by decide) (by decide)⟩
  · intro c hc
    simp only [sampleText, List.mem_cons, List.not_mem_nil, or_false] at hc
    rcases hc with rfl | rfl | rfl | rfl | rfl
    · exact ⟨by decide, 80, rfl, by decide⟩
    · unfold GoodTComp; decide
    · exact ⟨by decide, 6, rfl, by decide⟩
    · exact ⟨by decide, 1024, rfl, by decide⟩
    · exact ⟨by decide, 2048, rfl, by decide⟩
  · intro id hid; rcases hid with rfl | rfl <;> decide

example : exaPack Exa.Generated.FlowTable.sizeOf false none sampleText
    = .ok (false, [17, 1, 24, 10, 0, 0, 3, 0x81, 6, 5, 0x01, 80, 0x12, 4, 0, 0xd4, 8, 0]) := by decide +kernel
example : toRule false sampleText =
    [.prefix4 1 24 0x0A0000, .ops 3 [⟨false, false, false, true, 6⟩],
     .ops 5 [⟨false, false, false, true, 80⟩, ⟨false, false, true, false, 1024⟩, ⟨true, true, false, false, 2048⟩]] := by decide +kernel

/-- hypotheses of (a) hold on a concrete NLRI (sampleRule with its length octet) and the conclusion is what it says -/
example : decodeNlri false false (20 :: encodeFlow sampleRule) = .ok (⟨none, sampleRule⟩, []) ∧ NoOffset sampleRule := by decide +kernel
example : exaDecode false false (20 :: encodeFlow sampleRule) = .ok none (sampleRule.map toRaw) [] ∧
    (sampleRule.map toRaw).map (exaDelivered false) = sampleRule := by decide +kernel
/-- reserved bits and a first-operator AND are not delivered: `04 ce 50` (port, e|a|reserved|lt|gt, 80) is `port !=80` -/
example : exaDecode false false [3, 4, 0xce, 0x50] = .ok none [.ops 4 [⟨0xce, [0x50]⟩]] [] ∧
    exaDelivered false (.ops 4 [⟨0xce, [0x50]⟩]) = .ops 4 [⟨false, true, true, false, 80⟩] := by decide +kernel
/-- hypotheses of (b): a truncated value, an undefined component — the model of the code says INVALID -/
example : decodeNlri false false [6, 1, 8, 10, 5, 0x91, 0x50] = .error .valueShort ∧
    exaDecode false false [6, 1, 8, 10, 5, 0x91, 0x50] = .invalid [] := by decide +kernel
example : decodeNlri false false [6, 1, 8, 10, 13, 0x81, 5] = .error .undefinedType ∧
    exaDecode false false [6, 1, 8, 10, 13, 0x81, 5] = .invalid [] := by decide +kernel
/-- the order exception of (b): destination-port before protocol is rejected by the reference and delivered
    (regrouped, complete) by the code -/
example : decodeNlri false false [6, 5, 0x81, 80, 3, 0x81, 6] = .error .order ∧
    exaDecode false false [6, 5, 0x81, 80, 3, 0x81, 6] = .ok none [.ops 3 [⟨0x81, [6]⟩], .ops 5 [⟨0x81, [80]⟩]] [] := by decide +kernel
/-- **F46 witness for (a):** the RFC 8956 §3.8.2 example is accepted by the reference and INVALID for the code -/
example : decodeNlri true false [8, 2, 0x68, 0x40, 0x12, 0x34, 0x56, 0x78, 0x9a] = .ok (⟨none, [.prefix6 2 104 64 0x123456789a]⟩, []) ∧
    exaDecode true false [8, 2, 0x68, 0x40, 0x12, 0x34, 0x56, 0x78, 0x9a] = .invalid [] := by decide +kernel
/-- **F46 witness for (b):** `destination ::/16` offset 8 followed by a truncated component: the reference rejects,
    the code swallows the next component's type as an address byte and delivers the prefix alone -/
example : decodeNlri true false [5, 1, 16, 8, 0xaa, 3] = .error .noEol ∧
    exaDecode true false [5, 1, 16, 8, 0xaa, 3] = .ok none [.prefix6 1 16 8 [0xaa, 3]] [] := by decide +kernel

/-! ### The model of the unchanged code outside `GoodText` and at the edges; only the first departs from the
    RFC (each reproduced on the real code by the correspondence run and reported by the oracle) -/

/-- IPv6 offset: `destination 2001:db8::/64/32` is written with 8 address bytes; RFC 8956 carries the 32 pattern bits -/
example : exaPack Exa.Generated.FlowTable.sizeOf false none [.prefix6 1 0x20010db8000000000000000000000000 64 32]
    = .ok (true, [11, 1, 64, 32, 0x20, 0x01, 0x0d, 0xb8, 0, 0, 0, 0]) ∧
    encodeNlri ⟨none, toRule true [.prefix6 1 0x20010db8000000000000000000000000 64 32]⟩ = [7, 1, 64, 32, 0, 0, 0, 0] := by
  decide +kernel
/-- `next-header tcp` alone is an IPv6 route -/
example : exaPack Exa.Generated.FlowTable.sizeOf true none [.op 3 1 6] = .ok (true, [3, 3, 0x81, 6]) := by decide +kernel
/-- as the RFC wants them: 4095 bytes is `ff ff`; a flow-vpn NLRI shorter than a route distinguisher
    is invalid -/
example : exaEncodeLength 4095 = .ok [255, 255] := by decide +kernel
example : exaDecode false true [3, 3, 0x81, 6] = .invalid [] := by decide +kernel

end Exa.Props.C16
