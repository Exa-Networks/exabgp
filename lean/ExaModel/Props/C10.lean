import ExaModel.Lemmas.SessionCheck
import ExaModel.Lemmas.SessionSpec
import ExaModel.Lemmas.SessionFrame
import ExaModel.Lemmas.PeerPy
import ExaModel.Generated.NotifyTable
/-!
# C10 — every protocol error is answered with the right NOTIFICATION, once

Statement (properties.jsonl): whenever ExaBGP ends a session because of something it received or
a timer, the last message it writes is a single NOTIFICATION whose code and subcode name the
error class per RFC 4271 section 6, RFC 6608 and RFC 7313 (header errors 1/x, OPEN errors 2/x,
UPDATE errors 3/x, hold timer 4/0, message unexpected for the state 5/1-5/3, cease 6/x).  It
never answers a received NOTIFICATION with a NOTIFICATION, and never writes anything on a
connection after a NOTIFICATION.

Model: `Exa.Session` (M-Session), same runs as C05.  `errorClass` (Model/Session.lean) is the
hand-written RFC table: cause × FSM state → acceptable (code, subcode); `raised` / `semCode` /
`modelCode` are what the code raises (tied to /repo by the correspondence runs).
-/
namespace Exa.Props.C10
open Exa Exa.Session

abbrev trace (cfg : Cfg) (rib : Bool) (evs : List Event) : List Out := (run (init cfg rib) evs).2

def plain : Cfg := { passive := false, maxAttempts := 0, hold0 := false, graceful := false }

/-- **C10, once (full).** On every connection at most one NOTIFICATION is written and nothing is
    written after it — for every list of events. -/
theorem one_notification (cfg : Cfg) (rib : Bool) (evs : List Event) (xs ys : List Out) (c code sub : Nat) (st : Fsm)
    (h : trace cfg rib evs = xs ++ Out.send c (.notification code sub) st :: ys) :
    ∀ k st', Out.send c k st' ∉ ys := by
  obtain ⟨g, hg⟩ := run_accepted cfg rib evs
  rw [show (run (init cfg rib) evs).2 = _ from h] at hg
  exact accepted_dead hg (Or.inl ⟨code, sub, st, rfl⟩)

/-- **C10, no reply to a NOTIFICATION (full).** After the peer's NOTIFICATION was read on a
    connection (ghost marker `gotNotification c`: `read_message` raised the received Notification
    on c) nothing is written on it.  Since /repo 76f99ad this covers every NOTIFICATION, also one
    whose header length is 19 or 20 (finding F32, repaired: the reader no longer answers it 1/2;
    the message class `notifBadLen` of the rig is an ordinary `Msg.notification` for the model). -/
theorem none_after_received_notification (cfg : Cfg) (rib : Bool) (evs : List Event) (xs ys : List Out) (c : Nat)
    (h : trace cfg rib evs = xs ++ Out.gotNotification c :: ys) :
    ∀ k st, Out.send c k st ∉ ys := by
  obtain ⟨g, hg⟩ := run_accepted cfg rib evs
  rw [show (run (init cfg rib) evs).2 = _ from h] at hg
  exact accepted_dead hg (Or.inr rfl)

/-- **C10, the right code (sessions ended by a received message to which `causeOf` gives a cause; the second
    KEEPALIVE of a session with hold time 0, which `mainIter` answers 2/6, has none).** A coroutine reading
    the connection in use in state `st` which is handed a message `m` that ends the session per
    the RFCs (`causeOf st m = some cause`) writes exactly one thing on that connection, a
    NOTIFICATION whose (code, subcode) is in `errorClass cause st`, and closes it — in every state
    satisfying the invariant of the runs.  (Until /repo 8ee2e7e an OPEN in ESTABLISHED was the
    exception, finding F31.)  Hypothesis `hr`: the connection still takes a write.  Hypothesis `hapi`: handing `m`
    to the API process did not fail.
    When it does (`api receive { parsed; … }` configured and the API process gone) the code raises
    `ProcessError` before it looks at the message and the session is ended by THAT, a local
    failure the property does not speak about (`api_failure_writes_nothing` says what happens). -/
theorem code_is_class (s : State) (hinv : Inv s) (c : Nat) (k : Conn)
    (haw : awaited s = some c) (hc : s.conn = some k) (hk : k.id = c) (hr : k.rst = false)
    (m : Msg) (cause : Cause) (hcause : causeOf s.fsm m = some cause) (hapi : apiFails m s = false) :
    ∃ code sub, sendsOn c (deliver m s).2 = [.notification code sub] ∧ (code, sub) ∈ errorClass cause s.fsm ∧
      Out.close c ∈ (deliver m s).2 ∧ (deliver m s).1.conn = none := by
  rw [deliver_eq_onNotify m s hinv c k haw hc hk cause hcause hapi]
  obtain ⟨h1, h2, h3⟩ := onNotify_sends (modelCode s.fsm m).1 (modelCode s.fsm m).2 s k hc hr
  subst hk
  exact ⟨_, _, h1, modelCode_in_class s.fsm m cause hcause, h2, h3⟩

/-- `code_is_class` after ANY list of events: the state a run reaches satisfies `Inv`. -/
theorem code_is_class_run (cfg : Cfg) (rib : Bool) (evs : List Event) (c : Nat) (k : Conn)
    (haw : awaited (run (init cfg rib) evs).1 = some c) (hc : (run (init cfg rib) evs).1.conn = some k)
    (hk : k.id = c) (hr : k.rst = false) (m : Msg) (cause : Cause)
    (hcause : causeOf (run (init cfg rib) evs).1.fsm m = some cause)
    (hapi : apiFails m (run (init cfg rib) evs).1 = false) :
    ∃ code sub, sendsOn c (deliver m (run (init cfg rib) evs).1).2 = [.notification code sub] ∧
      (code, sub) ∈ errorClass cause (run (init cfg rib) evs).1.fsm ∧
      Out.close c ∈ (deliver m (run (init cfg rib) evs).1).2 ∧ (deliver m (run (init cfg rib) evs).1).1.conn = none :=
  code_is_class _ (run_inv evs _ (inv_init cfg rib)) c k haw hc hk hr m cause hcause hapi

/-- the API process is gone and received messages are forwarded to it: whatever was read, `_run`
    ends in `except ProcessError` — nothing at all is written on the connection (so in particular
    no second NOTIFICATION and no reply to one) and it is closed. -/
theorem api_failure_writes_nothing (s : State) (k : Conn) (hc : s.conn = some k) (m : Msg)
    (hapi : apiFails m s = true) :
    sendsOn k.id (deliver m s).2 = [] ∧ Out.close k.id ∈ (deliver m s).2 ∧ (deliver m s).1.conn = none :=
  deliver_process_error m s k hc hapi

/-- `hapi` holds of every run in which the API process stays alive, and of every configuration
    that does not forward received messages. -/
theorem api_alive_of_no_death (cfg : Cfg) (rib : Bool) (evs : List Event) (m : Msg)
    (h : Event.apiDies ∉ evs ∨ cfg.forward = false) : apiFails m (run (init cfg rib) evs).1 = false := by
  obtain ⟨hcfg, hdead⟩ := run_fr evs (init cfg rib)
  unfold apiFails
  rcases h with h | h
  · rw [hdead h]; simp [init]
  · rw [hcfg]; simp [init, h]

/-- F31 repaired (/repo 8ee2e7e): an OPEN read in ESTABLISHED is answered 5/3 and the session closed. -/
example :
    (step (run (init plain false) [.start, .connectOk, .recv 1 (.openOk false), .recv 1 .keepalive, .tick]).1
      (.recv 1 (.openOk false))).2 =
      [.send 1 (.notification 5 3) .established, .down, .fsm .established .idle, .close 1] := rfl

/-- the configured wait for the peer's OPEN ends the attempt with 5/1 (as C12 has it), which
    is what `errorClass` asks for. -/
example :
    Out.send 1 (.notification 5 1) .opensent ∈ trace plain false [.start, .connectOk, .openwaitExpired] ∧
    (5, 1) ∈ errorClass .openTimer .opensent := by
  decide

/-- **finding F87 (open; the F30 of DESIGN.md).** The outgoing connection is in OPENSENT, an incoming one is adopted: the
    coroutine keeps waiting on the closed one; when its wait expires the NOTIFICATION goes to the
    adopted connection — in state IDLE, on a connection on which no OPEN was ever written. -/
theorem f30_witness :
    trace plain false [.start, .connectOk, .incoming, .openwaitExpired] =
      [.fsm .idle .active, .fsm .active .idle, .fsm .idle .connect, .send 1 .open .connect, .fsm .connect .opensent,
       .down, .fsm .opensent .idle, .close 1,
       .send 2 (.notification 5 1) .idle, .fsm .idle .idle, .close 2] := rfl

/-- F18 / F89 repaired (/repo 5dabac1): the hold timer runs in OPENCONFIRM too — silence after the
    peer's OPEN ends the attempt with 4/0, which is what `errorClass` asks for. -/
theorem hold_timer_in_openconfirm :
    (step (run (init plain false) [.start, .connectOk, .recv 1 (.openOk false)]).1 .holdExpired).2 =
      [.send 1 (.notification 4 0) .openconfirm, .down, .fsm .openconfirm .idle, .close 1] ∧
    (4, 0) ∈ errorClass .holdTimer .openconfirm := by
  decide

/-- hold timer and cease: the codes the model raises are the RFC ones. -/
theorem hold_and_cease_codes :
    trace plain false [.start, .connectOk, .recv 1 (.openOk false), .recv 1 .keepalive, .tick, .holdExpired] ≠ [] ∧
    Out.send 1 (.notification 4 0) .established ∈
      trace plain false [.start, .connectOk, .recv 1 (.openOk false), .recv 1 .keepalive, .tick, .holdExpired] ∧
    (4, 0) ∈ errorClass .holdTimer .established ∧
    Out.send 1 (.notification 6 2) .established ∈
      trace plain false [.start, .connectOk, .recv 1 (.openOk false), .recv 1 .keepalive, .tick, .teardown 2, .tick] ∧
    (6, 2) ∈ errorClass (.cease 2) .established := by
  decide

/-! ## the NOTIFICATION table of the source -/

def definedPairs : List (Nat × Nat) := Generated.NotifyTable.subcodes.map fun r => (r.1, r.2.1)

/-- every (code, subcode) the model raises for a fault is defined in `Notification._str_subcode`. -/
theorem raised_defined : ∀ f : Fault, raised f ∈ definedPairs := by
  intro f; cases f <;> decide

theorem semCode_defined : ∀ e : OpenSem, semCode e ∈ definedPairs := by
  intro e; cases e <;> decide

/-- the names in the source are the RFC names of the subcodes `errorClass` uses
    (RFC 4271 §4.5 / §6, RFC 6608 §3, RFC 7313 §5, RFC 4486). -/
theorem subcode_names_rfc :
    ∀ r ∈ [(1, 1, "Connection Not Synchronized"), (1, 2, "Bad Message Length"), (1, 3, "Bad Message Type"),
           (2, 1, "Unsupported Version Number"), (2, 2, "Bad Peer AS"), (2, 3, "Bad BGP Identifier"),
           (2, 4, "Unsupported Optional Parameter"), (2, 6, "Unacceptable Hold Time"),
           (3, 1, "Malformed Attribute List"), (3, 10, "Invalid Network Field"),
           (5, 1, "Receive Unexpected Message in OpenSent State"),
           (5, 2, "Receive Unexpected Message in OpenConfirm State"),
           (5, 3, "Receive Unexpected Message in Established State"),
           (6, 2, "Administrative Shutdown"), (6, 3, "Peer De-configured"), (6, 4, "Administrative Reset"),
           (6, 7, "Connection Collision Resolution"), (7, 1, "Invalid Message Length")],
      r ∈ Generated.NotifyTable.subcodes :=
  forall_mem_of_find (fun r => (r.1, r.2.1)) _ _ rfl

/-- the error codes of RFC 4271 §4.5 carry their RFC names. -/
theorem code_names_rfc :
    Generated.NotifyTable.codes =
      [(1, "Message header error"), (2, "OPEN message error"), (3, "UPDATE message error"),
       (4, "Hold timer expired"), (5, "State machine error"), (6, "Cease")] := rfl

/-- **A refused incoming connection is answered with a Cease** (`Peer.handle_connection` as translated from
    /repo on this run, on every state of the model): whenever the model refuses, the translated method raises
    NOTIFICATION 6/3 (the peer is being removed) or 6/7 (Connection Collision Resolution, RFC 4486), never another
    code.  (That it raises only then is `handle_connection_py_is_model` of C05.) -/
theorem refused_incoming_is_cease (s : State) (h : refuses s = true) :
    pyHandle s = .raise 6 3 ∨ pyHandle s = .raise 6 7 := by
  have := (py_handle_refuses s).1 h
  cases hc : (!s.restart && s.teardown.isSome) <;> simp [hc] at this <;> simp [this]

/-- `code_is_class` applies: a KEEPALIVE before the OPEN is answered 5/1, once, and the connection closed. -/
example :
    let s := (run (init plain false) [.start, .connectOk]).1
    awaited s = some 1 ∧ causeOf s.fsm .keepalive = some (.unexpected .keepalive) ∧
    (step s (.recv 1 .keepalive)).2 =
      [.send 1 (.notification 5 1) .opensent, .down, .fsm .opensent .idle, .close 1] := by
  decide

/-- a well-formed NOTIFICATION is not answered. -/
example :
    trace plain false [.start, .connectOk, .recv 1 .notification] =
      [.fsm .idle .active, .fsm .active .idle, .fsm .idle .connect, .send 1 .open .connect, .fsm .connect .opensent,
       .gotNotification 1, .down, .fsm .opensent .idle, .close 1] := rfl

/-- **An accepted trace never writes on a connection after a NOTIFICATION** was written on it (the clause of C10 the
    trace checker carries; it is run on the traces of `local-as auto` / `peer-as auto` sessions, which M-Session
    does not model). -/
theorem accepted_trace_silent_after_notification (os : List Out) (g' : G) (h : chkAll true g0 os = some g')
    (xs ys : List Out) (c code sub : Nat) (st : Fsm) (e : os = xs ++ Out.send c (.notification code sub) st :: ys) :
    ∀ k st', Out.send c k st' ∉ ys := by
  subst e
  exact accepted_dead h (Or.inl ⟨code, sub, st, rfl⟩)

end Exa.Props.C10
