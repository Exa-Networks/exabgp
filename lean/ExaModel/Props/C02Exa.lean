/-
  C02 — ExaBGP's own decoder against the RFC reference decoder.

  `Props/C02.lean` proves the reference codec exact (`wire_left_inverse`: `decodeUpdate p (encodeUpdate p u) = .ok u`
  for every `WFUpdate p u`) and defines the canonical `report`. This file proves that the MODEL OF EXABGP'S DECODER
  (`Model/Attr7606.lean`: TLV walk, parse loop, value decoders, `unpack` merge rules, `split`, `_parse_payload`;
  tied to the code by the C08 correspondence on every run) reports the same thing on `encodeUpdate p u`.

  Both sides are mapped into `Exa.Wire.Report`: `report p u` for the reference, `reportParts p pt` for the model
  (`Lemmas/Attr7606AgreeTop.lean`: announces with the next hop ExaBGP attaches — NEXT_HOP for the NLRI field, the
  first address of the MP next hop otherwise —, withdraws with labels erased, the relayed attribute values = the
  kept wire bytes read by the reference value syntax, sorted by code; the merged AS_PATH = `mergeExa` of its parts).

  FULL STATEMENT (kept visible):

      exa_decoder_agrees_reference : ∀ xp u, WFUpdate xp.p u →
        ∃ pt, decodeParts noFix attrTable xp (encodeUpdate xp.p u) = .ok pt ∧ reportParts xp.p pt = report xp.p u

  It is FALSE as it stands; the proof forces the side conditions below, each either outside the model or a
  genuine difference between what ExaBGP decodes by value and what the reference carries opaquely:

    `ExaAccepts` per attribute
      · an unrecognised type code is one ExaBGP has no class for either (22, 23, 25, 26, 29, 40 are decoded by
        ExaBGP; the reference carries them opaquely)                                         — outside the model
      · MP families are negotiated, no RFC 8950 next hop negotiated, AFI 1/2 × SAFI 1, 2, 4, 128 only
                                                                                             — outside the model
      · a VPN next hop has a zero route distinguisher (ExaBGP: NOTIFICATION 3/0; the reference does not look)
      · COMMUNITY / CLUSTER_LIST / EXTENDED / LARGE COMMUNITY lists are not empty (ExaBGP: treat-as-withdraw, as
        RFC 7606 asks; the reference codec accepts the empty list)
    `MergeFree`
      · no AS4_AGGREGATOR, and on a 2-octet session no AS4_PATH: the RFC 6793 reconstruction is proved separately
        (`exa_merge_is_rfc6793`: the model of `merge_attributes` IS `merge6793`, including the discard of the
        confederation segments of an AS4_PATH, RFC 6793 §6) and checked end to end on the canonical AS_TRANS case
        (`example`), but the message-level theorem does not cover the re-ordering of the collection it causes.
    AIGP
      · an attribute of type 26 is never `.unknown` under `ExaAccepts` (ExaBGP has a class for it); what a session
        with and without AIGP reports for it is `Props/C02.lean` (`aigp_*`) and the C02 correspondence.
    End-of-RIB is outside these theorems (C02's `eor_iff` is about the reference; the code's recognition of it
    is compared on every run by the C02 correspondence).

  PROVED: `exa_decoder_agrees_reference_partial` (announce, withdraw, attrs; every attribute order, both length
  widths, Partial bit, unknown attributes, both AS sizes, IPv4/IPv6 × unicast, multicast, labelled, VPN with
  ADD-PATH), `exa_decodes_wellformed`, `exa_nothing_dropped`, `exa_nothing_invented`, `exa_merge_is_rfc6793`.
-/
import ExaModel.Lemmas.Attr7606AgreeTop
import ExaModel.Props.C02
import ExaModel.Props.C08

namespace Exa.Props.C02Exa
open Exa Exa.Wire Exa.Attr7606
open Exa.Generated.AttrTable (attrTable)

/-- The side conditions the proof forces (see the header). -/
def ExaSide (xp : XP) (u : UpdateSem) : Prop :=
  (∀ a ∈ u.attrs, ExaAccepts attrTable xp a) ∧ MergeFree xp.p u.attrs

/-- Zero-length AS_PATH, ATOMIC_AGGREGATE and AS4_PATH are registered with VALID_ZERO in the generated table. -/
theorem table_zero : TableZero attrTable := by decide +kernel

/-- **ExaBGP's decoder agrees with the reference decoder** (partial: under `ExaSide`). For every well-formed
    UPDATE — any attribute order, either length width, Partial bit, unrecognised attributes, 2- or 4-octet AS,
    IPv4 NLRI field and MP_REACH / MP_UNREACH of AFI 1/2 × SAFI 1, 2, 4, 128 with ADD-PATH, labels, RD — the model
    of ExaBGP's decoder accepts the reference encoding and what it has in hand (`partsOf`) reports, on the
    canonical form, the same announces (family, next hop, NLRI, in wire order), the same withdraws and the same
    attribute values as the reference decoder. -/
theorem exa_decoder_agrees_reference_partial (xp : XP) (u : UpdateSem) (hwf : WFUpdate xp.p u) (hs : ExaSide xp u) :
    decodeParts noFix attrTable xp (encodeUpdate xp.p u) = .ok (partsOf xp u) ∧
    (reportParts xp.p (partsOf xp u)).announce = (report xp.p u).announce ∧
    (reportParts xp.p (partsOf xp u)).withdraw = (report xp.p u).withdraw ∧
    (reportParts xp.p (partsOf xp u)).attrs = (report xp.p u).attrs := by
  obtain ⟨hacc, hmf⟩ := hs
  have hdec := decodeParts_enc (fx := noFix) C08.table_ok table_zero u hwf hacc hmf
  obtain ⟨hw, ha, hn, hW, hA, _, hsem⟩ := hwf
  have hnd := dupCode_of_semErr hsem
  refine ⟨hdec, ?_, ?_, ?_⟩
  · -- announces
    simp only [reportParts, report]
    rw [nh4Of_enc xp u ha, (mpAnnounced_enc xp u ha hacc).2]
    simp only [partsOf, mpAnnounces_eq u.attrs hnd, List.map_map]
    congr 1
    cases hf : findAttr u.attrs 14 with
    | none => rfl
    | some a => cases hv : a.val <;> simp [hv, List.map_map, Function.comp]
  · -- withdraws
    simp only [reportParts, report, partsOf, mpWithdraws_eq u.attrs hnd, List.map_append, List.map_map]
    congr 1
    cases hf : findAttr u.attrs 15 with
    | none => rfl
    | some a => cases hv : a.val <;> simp [hv, List.map_map, Function.comp]
  · -- attributes
    have h26 : rowOf attrTable aigpCode ≠ none := by decide +kernel
    have hna : ∀ a ∈ u.attrs, ∀ c raw, a.val = .unknown c raw → c ≠ aigpCode := by
      intro a ham c raw hv hc
      have := (hacc a ham).2
      rw [hv] at this
      subst hc
      exact h26 this
    simp only [reportParts, report, relayed_enc xp u ha hmf hna]

/-- What `Message.unpack` returns in the model for such an UPDATE: the End-of-RIB fast path, or the collection
    assembled from `partsOf` — not marked treat-as-withdraw, so the announces are announced. -/
theorem exa_decodes_wellformed (xp : XP) (u : UpdateSem) (hwf : WFUpdate xp.p u) (hs : ExaSide xp u) :
    decodeExa xp (encodeUpdate xp.p u) =
      .ok (if eorFast (encodeUpdate xp.p u) then emptyRep else assemble (partsOf xp u)) := by
  unfold decodeExa decodeWith
  rw [(exa_decoder_agrees_reference_partial xp u hwf hs).1]
  split <;> rfl

/-- Nothing the peer sent is dropped: every announce, withdraw and relayed attribute value of the reference
    report is in the report of the model of ExaBGP. -/
theorem exa_nothing_dropped (xp : XP) (u : UpdateSem) (hwf : WFUpdate xp.p u) (hs : ExaSide xp u) :
    (∀ x ∈ (report xp.p u).announce, x ∈ (reportParts xp.p (partsOf xp u)).announce) ∧
    (∀ x ∈ (report xp.p u).withdraw, x ∈ (reportParts xp.p (partsOf xp u)).withdraw) ∧
    (∀ v ∈ (report xp.p u).attrs, v ∈ (reportParts xp.p (partsOf xp u)).attrs) := by
  obtain ⟨_, h1, h2, h3⟩ := exa_decoder_agrees_reference_partial xp u hwf hs
  rw [h1, h2, h3]
  exact ⟨fun _ h => h, fun _ h => h, fun _ h => h⟩

/-- Nothing is invented: every announce, withdraw and attribute value the model of ExaBGP reports is in the
    reference report. -/
theorem exa_nothing_invented (xp : XP) (u : UpdateSem) (hwf : WFUpdate xp.p u) (hs : ExaSide xp u) :
    (∀ x ∈ (reportParts xp.p (partsOf xp u)).announce, x ∈ (report xp.p u).announce) ∧
    (∀ x ∈ (reportParts xp.p (partsOf xp u)).withdraw, x ∈ (report xp.p u).withdraw) ∧
    (∀ v ∈ (reportParts xp.p (partsOf xp u)).attrs, v ∈ (report xp.p u).attrs) := by
  obtain ⟨_, h1, h2, h3⟩ := exa_decoder_agrees_reference_partial xp u hwf hs
  rw [h1, h2, h3]
  exact ⟨fun _ h => h, fun _ h => h, fun _ h => h⟩

/-- The model of ExaBGP's `merge_attributes` (commit 72add9c, on path segments) is the RFC 6793 §4.2.3 merge of the
    reference, for all pairs of paths. -/
theorem exa_merge_is_rfc6793 (as2 as4 : List Seg) : mergeExa as2 as4 = merge6793 as2 as4 :=
  mergeExa_eq_merge6793 as2 as4

/-- the session of `Props/C02.lean`'s example: 2-octet AS, ADD-PATH for VPN-IPv4 -/
def xpEx : XP := { p := C02.pEx, families := [(1, 1), (1, 128), (2, 4)] }

-- a labelled VPN route with ADD-PATH (path id 7, labels 100/200, RD), AS_TRANS in AS_PATH with the true path in
-- AS4_PATH, extended-length ORIGIN, an unknown transitive attribute with Partial, a labelled IPv6 withdrawal, IPv4
-- withdrawn route and NLRI: the model of ExaBGP's decoder reports exactly what the reference reports — including
-- the RFC 6793 reconstruction, which `MergeFree` keeps out of the theorem
example : (decodeParts noFix attrTable xpEx (encodeUpdate C02.pEx C02.uEx)).toOption.map
      (fun pt => (reportParts C02.pEx pt).announce) = some (report C02.pEx C02.uEx).announce := by decide +kernel
example : (decodeParts noFix attrTable xpEx (encodeUpdate C02.pEx C02.uEx)).toOption.map
      (fun pt => (reportParts C02.pEx pt).withdraw) = some (report C02.pEx C02.uEx).withdraw := by decide +kernel
example : (decodeParts noFix attrTable xpEx (encodeUpdate C02.pEx C02.uEx)).toOption.map
      (fun pt => (reportParts C02.pEx pt).attrs) = some (report C02.pEx C02.uEx).attrs := by decide +kernel

-- the same UPDATE without the AS4_PATH satisfies the side conditions of the theorem (`ExaSide`)
def uMergeFree : UpdateSem :=
  { C02.uEx with attrs :=
      [ ⟨⟨false, true, false, true⟩, .origin 0⟩,
        ⟨⟨false, true, false, false⟩, .asPath [(2, [65002, 23456, 3])]⟩,
        ⟨⟨false, true, false, false⟩, .nextHop 0x0A000001⟩,
        ⟨⟨true, false, false, false⟩,
          .mpReach 1 128 [0, 0, 0, 0, 0, 0, 0, 0, 10, 0, 0, 1]
            [{ pathId := some 7, labels := [100, 200], rd := [0, 0, 253, 232, 0, 0, 0, 1], plen := 24, pfx := [10, 0, 0] }]⟩,
        ⟨⟨true, true, true, false⟩, .unknown 99 [1, 2, 3]⟩,
        ⟨⟨true, false, false, true⟩,
          .mpUnreach 2 4 [{ pathId := none, labels := [], rd := [], plen := 64, pfx := [32, 1, 13, 184, 0, 0, 0, 0] }]⟩ ] }
example : uMergeFree.attrs = C02.uEx.attrs.filter (fun a => a.val.code != 17) := by decide +kernel
example : ExaSide xpEx uMergeFree := by
  refine ⟨?_, by decide +kernel, by decide +kernel⟩
  simp only [uMergeFree, List.forall_mem_cons]
  -- ORIGIN, AS_PATH, NEXT_HOP ask nothing; MP_REACH_NLRI: VPN-IPv4 negotiated, 12-byte next hop with a zero RD, one
  -- NLRI; 99 has no row in the table; MP_UNREACH_NLRI: labelled IPv6 negotiated
  exact ⟨⟨trivial, trivial⟩, ⟨trivial, trivial⟩, ⟨trivial, trivial⟩,
    ⟨trivial, by decide, rfl, by decide, fun _ => by decide, List.cons_ne_nil _ _⟩,
    ⟨trivial, show rowOf attrTable 99 = none by decide +kernel⟩,
    ⟨trivial, show xpEx.families.contains (2, 4) = true from rfl⟩, fun _ h => nomatch h⟩
example : semErr C02.pEx uMergeFree = none := by decide +kernel

end Exa.Props.C02Exa
