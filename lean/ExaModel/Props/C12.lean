import ExaModel.Lemmas.TimerSched
import ExaModel.Lemmas.TimerPy
/-!
# C12 — Hold and keepalive timers (part a: the timer arithmetic)

Statement (properties.jsonl): with a negotiated hold time H greater than zero, a session on
which nothing is received for more than H seconds is closed with NOTIFICATION 4/0, and it is
never closed for a silence shorter than H; while established ExaBGP never lets more than H/3
seconds (plus scheduling granularity) pass between KEEPALIVEs.  With H equal to zero no periodic
KEEPALIVE is sent once established and the hold timer never fires; a peer OPEN that does not
arrive within the configured wait ends the attempt with 5/1.  Quantifier: all arrival-time
sequences of peer messages and all negotiated hold times (0, 3..65535).

Model: `Exa.Timer` (M-Timer), integer milliseconds, the code's `int(time.time())` = `t / 1000`.
`Sess.init H tR tS` = `ReceiveTimer(…, H, 4, 0)` created when the clock reads `tR`, `KA`/`SendTimer`
when it reads `tS`.  `Sess.run s ps` executes the iterations `ps` of the `while` loop of
`Peer._main` (`recv_timer.check_ka(message)` then `send_ka.send_if_needed()`); each `Poll` has
the clock reading `t` and the kind of message handed over (`real` = a BGP message, otherwise
`_NOP`).  A session ends at the first `Notify`; `closed = some (t, code, subcode)`.

"Silence" is measured at the timers: from the clock reading `lastRealMs tR pre` at which the last
real message was handed to `check_ka` (or the `ReceiveTimer` was created) to the reading at the
poll in question.  `δ` is the scheduling granularity: `Gaps δ prev ps` says every iteration starts
at most `δ` ms after the previous one.  Every bound below is the exact one the code satisfies:
the examples at the end show each is attained.

What is proved here is the arithmetic, for every schedule and every H.  That `_main` does come
round every `δ` (it blocks in `sock_sendall` under back-pressure) and the wall clock being monotone
are runtime matters, covered by the session rig (part b), not by these theorems.  The OPENCONFIRM
phase has a timer of its own (`_read_ka`), treated in the last section.

Tie to the source at proof level (not only by sampled correspondence): `Generated/PyTimer.lean` is
`exabgp/bgp/timer.py` (`check_ka_timer`, `check_ka`, `need_ka`) translated statement by statement
on every run by `harness/pylite.py`; `timer_py_*` below prove, for every state, message kind and
clock value, that the translated methods compute exactly what the model's `Recv.checkKaTimer`,
`Recv.checkKa`, `Send.needKa` compute.  Editing a comparison, an operand or the order of the
statements in timer.py therefore breaks one of these obligations directly.
-/
namespace Exa.Props.C12
open Exa Exa.Timer Exa.Generated

/-- `keepaliveOf` of the model is `HoldTime.keepalive()` of the code on every hold time a session can have: the
    method (a float division truncated by `int`) was run on all 65 536 of them on this run and never differs from the
    floor division. -/
theorem keepalive_is_floor_division : TimerTable.keepaliveDeviations = [] := by decide

/-- **The constants are the RFC 4271 ones** (generated table = specification): hold time 0 or ≥ 3,
    16 bit; keepalive = hold / 3; hold timer expiry is 4/0; OPEN wait expiry is 5/1; KEEPALIVE is
    type 4; exactly `_NOP`, `_AWAKE`, `_DONE` are not real messages. -/
theorem timer_table_spec :
    TimerTable.holdMin = 3 ∧ TimerTable.holdMax = 65535 ∧ TimerTable.kaDivisor = 3 ∧
    TimerTable.keepaliveType = 4 ∧ TimerTable.holdNotify = (4, 0) ∧
    TimerTable.openWaitNotify = (5, 1) ∧ TimerTable.h0KaNotify = (2, 6) ∧
    TimerTable.kaNetNotify = (4, 0) ∧
    TimerTable.openConfirmHasTimer = true ∧ TimerTable.openConfirmNotify = (4, 0) ∧
    TimerTable.openConfirmUnexpected = (5, 2) ∧
    TimerTable.kinds.map (fun r => (r.2.1, r.2.2 == 0)) =
      [(252, false), (254, false), (253, false), (1, true), (2, true), (3, true), (4, true), (5, true), (6, true)] :=
  ⟨rfl, rfl, rfl, rfl, rfl, rfl, rfl, rfl, rfl, rfl, rfl, rfl⟩

/-- **The model is the code** (1/3): `ReceiveTimer.check_ka_timer`, translated from /repo on this run,
    equals the model's `Recv.checkKaTimer` on every input. -/
theorem timer_py_check_ka_timer (r : Recv) (nowMs : Nat) (k : Kind) :
    PyTimer.ReceiveTimer.check_ka_timer r.toPy k.type k.sched (secs nowMs) = liftRecvTimer (r.checkKaTimer nowMs k) :=
  py_check_ka_timer_eq_model r nowMs k

/-- **The model is the code** (2/3): `ReceiveTimer.check_ka` = `Recv.checkKa`. -/
theorem timer_py_check_ka (r : Recv) (nowMs : Nat) (k : Kind) :
    PyTimer.ReceiveTimer.check_ka r.toPy k.type k.sched (secs nowMs) = liftRecvKa (r.checkKa nowMs k) := by
  have h := py_check_ka_timer_eq_model r nowMs k
  unfold PyTimer.ReceiveTimer.check_ka Recv.checkKa
  simp only []
  rw [show (⟨r.toPy.holdtime, r.toPy.last_print, r.toPy.last_read, r.toPy.code, r.toPy.subcode, r.toPy.single⟩ :
      PyTimer.ReceiveTimerSt) = r.toPy from rfl, h]
  rcases hm : r.checkKaTimer nowMs k with ⟨r1, res⟩
  cases res with
  | raise c s => simp [liftRecvTimer, liftRecvKa]
  | ret b =>
    cases b
    · cases hsingle : r1.single <;>
        simp [liftRecvTimer, liftRecvKa, Recv.toPy, hsingle, TimerTable.h0KaNotify]
    · simp [liftRecvTimer, liftRecvKa, Recv.toPy]

/-- **The model is the code** (3/3): `SendTimer.need_ka` = `Send.needKa`. -/
theorem timer_py_need_ka (s : Send) (nowMs : Nat) :
    PyTimer.SendTimer.need_ka s.toPy (secs nowMs) = liftSend (s.needKa nowMs) := by
  rw [need_ka_eq]
  unfold Send.needKa
  by_cases h0 : s.keepalive = 0
  · rw [if_pos h0, if_pos (show s.toPy.keepalive = 0 by simp [Send.toPy, h0])]; rfl
  · rw [if_neg h0, if_neg (show ¬ s.toPy.keepalive = 0 by simp [Send.toPy, h0])]
    have hd : (s.lastSent : Int) + s.keepalive - secs nowMs ≤ 0 ↔ s.lastSent + s.keepalive ≤ secs nowMs := by omega
    by_cases h : s.lastSent + s.keepalive ≤ secs nowMs
    · rw [if_pos h]; exact if_pos (hd.2 h)
    · rw [if_neg h]; exact if_neg (mt hd.1 h)

/-- **The one-step facts hold of the translated code itself**: `check_ka_timer` raises exactly
    `Notify(self.code, self.subcode)`, only with a hold time other than 0, and only when strictly
    more than `holdtime` whole seconds separate the clock from `last_read` — which a real message
    handed in at this very call has just reset (so such a call never raises).  `hpos`: a hold time is
    an unsigned 16-bit field. -/
theorem py_raise_only_after_hold (st : PyTimer.ReceiveTimerSt) (ty sched now c sb : Int) (hpos : 0 ≤ st.holdtime)
    (h : PyTimer.ReceiveTimer.check_ka_timer st ty sched now = .raise c sb) :
    st.holdtime ≠ 0 ∧ c = st.code ∧ sb = st.subcode ∧ sched ≠ 0 ∧ now - st.last_read > st.holdtime := by
  rw [check_ka_timer_eq] at h
  by_cases h0 : st.holdtime = 0
  · rw [if_pos h0] at h; cases h
  · rw [if_neg h0] at h
    by_cases he : st.holdtime < now - (if sched = 0 then now else st.last_read)
    · rw [if_pos he] at h
      cases h
      by_cases hs : sched = 0
      · -- a real message has just reset `last_read`: elapsed is 0
        rw [if_pos hs, Int.sub_self] at he
        exact absurd (Int.lt_of_le_of_lt hpos he) (Int.lt_irrefl 0)
      · rw [if_neg hs] at he
        exact ⟨h0, rfl, rfl, hs, he⟩
    · rw [if_neg he] at h; cases h

/-- **Never closed early.** For every H > 0 and every schedule: if the session ended, it ended at
    a poll that carried no real message, with NOTIFICATION 4/0, and strictly more than `H·1000` ms
    after the last real message was handed to the hold timer.  (No truncation slack is lost on
    this side: `⌊t/1000⌋ − ⌊L/1000⌋ > H` implies `t − L > H·1000`.) -/
theorem no_early_expiry (H tR tS : Nat) (hH : H ≠ 0) (ps : List Poll) (t c sb : Nat)
    (hc : ((Sess.init H tR tS).run ps).1.closed = some (t, c, sb)) :
    ∃ pre p post, ps = pre ++ p :: post ∧ p.t = t ∧ c = 4 ∧ sb = 0 ∧ p.kind.real = false ∧
      lastRealMs tR pre + H * 1000 < t := by
  obtain ⟨pre, p, post, h1, h2, h3, h4, h5, h6, _⟩ :=
    closed_split H hH ps _ tR tS (inv_init H tR tS) t c sb hc
  exact ⟨pre, p, post, h1, h2, h3, h4, h5, h6⟩

/-- **Closed once silent for H+1 seconds.** For every H > 0: if at the instant `τ` the silence has
    lasted `(H+1)·1000 + δ` ms or more and the loop has polled within the last `δ` ms, the
    session has ended.  (The extra second is the truncation slack of `int(time.time())`:
    the timer fires when `⌊t/1000⌋ − ⌊L/1000⌋ ≥ H + 1`.) -/
theorem expiry_by (H tR tS δ τ : Nat) (hH : H ≠ 0) (ps : List Poll) (hne : ps ≠ [])
    (hpoll : τ ≤ lastPollMs tS ps + δ)
    (hsil : lastRealMs tR ps + (H + 1) * 1000 + δ ≤ τ) :
    ((Sess.init H tR tS).run ps).1.closed ≠ none :=
  expired_of_silence H hH ps _ tR tS tS (inv_init H tR tS) hne
    (Nat.le_of_add_le_add_right (Nat.le_trans hsil hpoll))

/-- **The window in which the hold timer fires.** When the loop comes round at least every `δ` ms
    (and started less than H+1 s after the `ReceiveTimer` was created), the NOTIFICATION 4/0 is
    raised at a silence `s` with `H·1000 < s < (H+1)·1000 + δ`. -/
theorem hold_expiry_window (H tR tS δ : Nat) (hH : H ≠ 0) (ps : List Poll) (t c sb : Nat)
    (hstart : tS < tR + (H + 1) * 1000) (hg : Gaps δ tS ps)
    (hc : ((Sess.init H tR tS).run ps).1.closed = some (t, c, sb)) :
    ∃ pre p post, ps = pre ++ p :: post ∧ p.t = t ∧ (c, sb) = (4, 0) ∧
      lastRealMs tR pre + H * 1000 < t ∧ t < lastRealMs tR pre + (H + 1) * 1000 + δ := by
  obtain ⟨pre, p, post, h1, h2, h3, h4, h5, h6, h7⟩ :=
    closed_split H hH ps _ tR tS (inv_init H tR tS) t c sb hc
  have ho := open_silence_lt H hH pre _ tR tS tS (inv_init H tR tS) hstart h7
  have hgp := gaps_split δ tS pre p post (h1 ▸ hg)
  exact ⟨pre, p, post, h1, h2, by rw [h3, h4], h6, h2 ▸ Nat.lt_of_le_of_lt hgp (Nat.add_lt_add_right ho δ)⟩

/-- **H = 0: the hold timer never fires.** With hold time zero, whatever arrives and however long
    nothing does, the session is never ended with 4/0; the only NOTIFICATION the timers raise is
    2/6, and that exactly when a second KEEPALIVE has been received (`check_ka`: "Negotiated
    holdtime was zero, it was invalid to send us a keepalive"). In particular a peer that sends
    no KEEPALIVE is never closed. -/
theorem h0_never_fires (tR tS : Nat) (ps : List Poll) :
    (∀ t c sb, ((Sess.init 0 tR tS).run ps).1.closed = some (t, c, sb) → (c, sb) = (2, 6)) ∧
    (((Sess.init 0 tR tS).run ps).1.closed ≠ none ↔ 2 ≤ kaCount ps) := by
  obtain ⟨i, hs⟩ := inv0_init tR tS
  obtain ⟨_, h2, h3⟩ := h0_run ps _ i
  refine ⟨?_, ?_⟩
  · intro t c sb h
    obtain ⟨a, b⟩ := h2 t c sb h
    rw [a, b]
  · rw [h3, hs]; simp

/-- **H = 0: no periodic KEEPALIVE.** With hold time zero no iteration of the loop sends a
    KEEPALIVE, on any schedule. -/
theorem h0_no_periodic_ka (tR tS : Nat) (ps : List Poll) :
    kaTimes ((Sess.init 0 tR tS).run ps).2 = [] :=
  (h0_run ps _ (inv0_init tR tS).1).1

/-- `HoldTime.keepalive()` never exceeds a third of the hold time, and is at least one second for
    every hold time that can be negotiated. -/
theorem ka_interval_le (H : Nat) : keepaliveOf H * 3 ≤ H ∧ (3 ≤ H → 1 ≤ keepaliveOf H) :=
  ⟨Nat.div_mul_le_self H 3, fun h => Nat.div_pos h (by decide)⟩

/-- **KEEPALIVE gap.** For every H ≥ 3 and every schedule whose iterations are at most `δ` ms
    apart: the first KEEPALIVE follows the creation of the `SendTimer`, and every later one its
    predecessor, by less than `⌊H/3⌋·1000 + δ` ms — whatever the peer sends, bursts included.
    (No extra second for the truncation to whole seconds: `last_sent` is truncated downwards, so
    truncation can only make the next KEEPALIVE earlier.) -/
theorem ka_gap (H tR tS δ : Nat) (hH : 3 ≤ H) (ps : List Poll) (hg : Gaps δ tS ps) :
    AdjLt (keepaliveOf H * 1000 + δ) (tS :: kaTimes ((Sess.init H tR tS).run ps).2) :=
  ka_adj_lt H δ hH ps _ tR tS tS (inv_init H tR tS) (Nat.lt_add_of_pos_right (Nat.div_pos hH (by decide))) hg

/-- **As long as the session is open the last KEEPALIVE is fresh.** At every poll of an open
    session the last KEEPALIVE (or the creation of the `SendTimer`) is less than `⌊H/3⌋·1000` ms
    old — so between polls never more than `⌊H/3⌋·1000 + δ`. -/
theorem ka_fresh (H tR tS : Nat) (hH : 3 ≤ H) (ps : List Poll)
    (ho : ((Sess.init H tR tS).run ps).1.closed = none) :
    lastPollMs tS ps < lastOr tS (kaTimes ((Sess.init H tR tS).run ps).2) + keepaliveOf H * 1000 :=
  Timer.ka_fresh H hH ps _ tR tS tS (inv_init H tR tS) (Nat.lt_add_of_pos_right (Nat.div_pos hH (by decide))) ho

/-- **No KEEPALIVE storm** (what the code forces in the other direction): successive KEEPALIVEs
    are more than `(⌊H/3⌋ − 1)·1000` ms apart, on every schedule. -/
theorem ka_min_gap (H tR tS : Nat) (hH : 3 ≤ H) (ps : List Poll) :
    AdjGt ((keepaliveOf H - 1) * 1000) (tS :: kaTimes ((Sess.init H tR tS).run ps).2) :=
  ka_adj_gt H (third_ne_zero hH).2 ps _ tR tS (inv_init H tR tS)

/-- **Outbound traffic changes nothing for the timers.** Whatever ExaBGP writes itself between two
    iterations (UPDATEs of the initial table or of the API, End-of-RIB, ROUTE-REFRESH,
    OPERATIONAL) — in any number, at any time — the session ends exactly as without it and
    exactly the same KEEPALIVEs are sent at the same times: an UPDATE sent never replaces a
    KEEPALIVE.  (In the model this is by definition of `Sess.step`; that the real
    `Protocol.send` / `new_update_generator` / `new_eor` / `new_refresh` paths leave both timers
    and the decisions of `KA.send_if_needed` untouched is what the correspondence runs check.) -/
theorem outbound_traffic_is_invisible (H tR tS : Nat) (evs : List Ev) :
    ((Sess.init H tR tS).runEv evs).1 = ((Sess.init H tR tS).run (pollsOf evs)).1 ∧
    kaTimes ((Sess.init H tR tS).runEv evs).2 = kaTimes ((Sess.init H tR tS).run (pollsOf evs)).2 :=
  runEv_eq_run _ evs

/-- **KEEPALIVE gap with outbound traffic in the schedule**: `ka_gap` for schedules in which
    outbound writes are interleaved with the iterations (long outbound batches only enter
    through `δ`, the distance between iterations). -/
theorem ka_gap_with_outbound (H tR tS δ : Nat) (hH : 3 ≤ H) (evs : List Ev)
    (hg : Gaps δ tS (pollsOf evs)) :
    AdjLt (keepaliveOf H * 1000 + δ) (tS :: kaTimes ((Sess.init H tR tS).runEv evs).2) := by
  rw [(runEv_eq_run _ evs).2]
  exact ka_gap H tR tS δ hH (pollsOf evs) hg

/-- **The timers run on the negotiated hold time, the minimum of the two OPENs** (RFC 4271 4.2):
    both the `ReceiveTimer` of `_establish` and the `SendTimer` of `_main` are created from
    `min localHold peerHold`; zero on either side gives zero. -/
theorem negotiated_hold_is_min (l p tR tS : Nat) :
    (Sess.establish l p tR tS).recv.hold = min l p ∧
    (Sess.establish l p tR tS).send.keepalive = min l p / 3 ∧
    ((l = 0 ∨ p = 0) → (Sess.establish l p tR tS).recv.hold = 0 ∧ (Sess.establish l p tR tS).send.keepalive = 0) ∧
    Sess.establish l p tR tS = Sess.init (min l p) tR tS := by
  refine ⟨rfl, rfl, fun h => ?_, rfl⟩
  have h0 : min l p = 0 := Nat.min_eq_zero_iff.2 h
  exact ⟨h0, show min l p / 3 = 0 by rw [h0]⟩

/-- **Hold time 0 in either OPEN switches both timers off**: whatever our own configured hold
    time, the session is never ended with 4/0 and no periodic KEEPALIVE is sent, on any schedule,
    outbound traffic included. -/
theorem zero_in_either_open_disables_timers (l p tR tS : Nat) (h : l = 0 ∨ p = 0) (evs : List Ev) :
    (∀ t c sb, ((Sess.establish l p tR tS).runEv evs).1.closed = some (t, c, sb) → (c, sb) = (2, 6)) ∧
    kaTimes ((Sess.establish l p tR tS).runEv evs).2 = [] := by
  rw [establish_eq, Nat.min_eq_zero_iff.2 h, (runEv_eq_run _ evs).1, (runEv_eq_run _ evs).2]
  exact ⟨(h0_never_fires tR tS (pollsOf evs)).1, h0_no_periodic_ka tR tS (pollsOf evs)⟩

/-! ### OPENCONFIRM (the hold timer before the first KEEPALIVE)

`openConfirm H tW arrivals now`: the wait for the first KEEPALIVE was entered when the clock read
`tW` (the peer's OPEN has been read, our KEEPALIVE written); `arrivals` is what `read_message` has
returned since, NOPs included, with the clock reading of each.  The timer of this phase is a single
`asyncio.wait_for(…, timeout=H)`: it is not re-armed by anything and only the first *complete* real
message ends it; bytes of a message still incomplete at `tW + H` s do not count as received. -/

/-- **OPENCONFIRM: a silent peer is closed with 4/0 exactly H seconds after the wait began.**
    For every H > 0: if no real message is complete within `H·1000` ms of `tW`, then from
    `tW + H·1000` on the outcome is NOTIFICATION 4/0, raised at `tW + H·1000` (no truncation slack:
    the event loop's clock, not `int(time.time())`) — whatever arrives later. -/
theorem c12_openconfirm_expires (H tW now : Nat) (hH : H ≠ 0) (arrivals : List Poll)
    (hsil : ∀ q ∈ arrivals, q.kind.real = true → tW + H * 1000 < q.t)
    (hnow : tW + H * 1000 ≤ now) :
    openConfirm H tW arrivals now = .notify (tW + H * 1000) 4 0 := by
  cases hf : firstReal arrivals with
  | none => rw [openConfirm_of_none H tW now hf, if_pos ⟨hH, hnow⟩]
  | some p =>
    obtain ⟨hm, hr⟩ := firstReal_mem arrivals p hf
    rw [openConfirm_of_some H tW now hf, if_pos ⟨hH, hsil p hm hr⟩]

/-- **OPENCONFIRM: never closed for a silence shorter than H.** If the outcome is 4/0 then H > 0,
    it was raised exactly `H·1000` ms after the wait began, and every real message of the (time
    ordered) arrival sequence came strictly later: nothing was received between the peer's OPEN
    and the expiry.  So the sentence holds in OPENCONFIRM too — with the reading that "received"
    means a complete message: the single `wait_for` is not re-armed by the first bytes of a
    KEEPALIVE that is still incomplete when it fires. -/
theorem c12_openconfirm_not_early (H tW now prev t : Nat) (arrivals : List Poll) (hm : Mono prev arrivals)
    (h : openConfirm H tW arrivals now = .notify t 4 0) :
    H ≠ 0 ∧ t = tW + H * 1000 ∧ ∀ q ∈ arrivals, q.kind.real = true → t < q.t := by
  revert h
  fun_cases openConfirm H tW arrivals now <;> intro h
  case case1 p hf hc =>    -- the first message comes after the deadline
    have ht := (OcOutcome.notify.inj h).1
    exact ⟨hc.1, ht.symm, fun q hq hr => ht ▸ Nat.lt_of_lt_of_le hc.2 (firstReal_le prev arrivals hm p hf q hq hr)⟩
  case case4 => exact absurd (OcOutcome.notify.inj h).2.1 (by decide)    -- another message in time: 5/2
  case case5 hf hc =>    -- nothing by the deadline
    refine ⟨hc.1, (OcOutcome.notify.inj h).1.symm, fun q hq hr => ?_⟩
    exact absurd ((firstReal_none arrivals hf q hq).symm.trans hr) Bool.false_ne_true
  all_goals cases h    -- race, established, waiting

/-- **OPENCONFIRM with hold time 0: no timer.** Whatever arrives and however long nothing does,
    the outcome is never 4/0 (and never a race with a timeout): the session waits in OPENCONFIRM
    until the first real message — KEEPALIVE → established, anything else → 5/2. -/
theorem c12_openconfirm_hold0 (tW now : Nat) (arrivals : List Poll) :
    (∀ t c sb, openConfirm 0 tW arrivals now = .notify t c sb → (c, sb) = (5, 2)) ∧
    (∀ t, openConfirm 0 tW arrivals now ≠ .race t) ∧
    (firstReal arrivals = none → openConfirm 0 tW arrivals now = .waiting) := by
  fun_cases openConfirm 0 tW arrivals now
  case case1 h | case2 h | case5 h => exact absurd rfl h.1    -- the branches with a deadline
  case case3 hf _ _ _ => exact ⟨nofun, nofun, fun h => by rw [hf] at h; cases h⟩    -- KEEPALIVE first
  case case4 hf _ _ _ =>    -- another message first
    exact ⟨fun _ _ _ h => by cases h; rfl, nofun, fun h => by rw [hf] at h; cases h⟩
  case case6 => exact ⟨nofun, nofun, fun _ => rfl⟩    -- nothing yet

/-- **OPENCONFIRM: a KEEPALIVE in time establishes the session**, at the instant it is read. -/
theorem c12_openconfirm_keepalive_in_time (H tW now : Nat) (arrivals : List Poll) (p : Poll)
    (hf : firstReal arrivals = some p) (hk : p.kind.isKeepalive = true)
    (ht : H = 0 ∨ p.t < tW + H * 1000) :
    openConfirm H tW arrivals now = .established p.t := by
  have h1 : ¬ (H ≠ 0 ∧ tW + H * 1000 < p.t) := fun h => Nat.lt_asymm (ht.resolve_left h.1) h.2
  have h2 : ¬ (H ≠ 0 ∧ p.t = tW + H * 1000) := fun h => Nat.ne_of_lt (ht.resolve_left h.1) h.2
  rw [openConfirm_of_some H tW now hf, if_neg h1, if_neg h2, if_pos hk]

/-- **The first KEEPALIVE moves the session to the established timers.** After a first KEEPALIVE
    read at `a`, with negotiated H = min(our hold time, the peer's) > 0, the established-phase
    bounds hold with the silence counted from `a` (not from the creation of the `ReceiveTimer`):
    never 4/0 before `H·1000` ms of silence, closed once polled at `(H+1)·1000` ms of silence. -/
theorem c12_openconfirm_handover (l p tC a tS : Nat) (hH : min l p ≠ 0) (ps : List Poll) :
    (∀ t c sb, ((Sess.afterOpenConfirm l p tC a tS).run ps).1.closed = some (t, c, sb) →
      ∃ pre q post, ps = pre ++ q :: post ∧ q.t = t ∧ c = 4 ∧ sb = 0 ∧ q.kind.real = false ∧
        lastRealMs a pre + min l p * 1000 < t) ∧
    (ps ≠ [] → lastRealMs a ps + (min l p + 1) * 1000 ≤ lastPollMs tS ps →
      ((Sess.afterOpenConfirm l p tC a tS).run ps).1.closed ≠ none) := by
  have inv := inv_afterOpenConfirm l p tC a tS hH
  refine ⟨?_, ?_⟩
  · intro t c sb hc
    obtain ⟨pre, q, post, h1, h2, h3, h4, h5, h6, _⟩ := closed_split _ hH ps _ a tS inv t c sb hc
    exact ⟨pre, q, post, h1, h2, h3, h4, h5, h6⟩
  · intro hne hs
    exact expired_of_silence _ hH ps _ a tS tS inv hne hs

/-- **OPEN wait.** A peer OPEN that is not complete within `openwait` seconds (or never) ends the
    attempt with 5/1; one that is complete earlier does not.  (At exactly `openwait` the two
    callbacks are ready in the same event-loop iteration; asyncio decides.) -/
theorem openwait_5_1 (w : Nat) :
    openWait w none = .notify 5 1 ∧
    (∀ a, w * 1000 < a → openWait w (some a) = .notify 5 1) ∧
    (∀ a, a < w * 1000 → openWait w (some a) = .opened) := by
  refine ⟨rfl, fun a h => ?_, fun a h => if_pos h⟩
  exact (if_neg (Nat.lt_asymm h)).trans (if_neg (Nat.ne_of_gt h))

/-! Each bound is attained on a concrete schedule. -/

def nop (t : Nat) : Poll := { t := t, kind := Kind.nop }
def ka (t : Nat) : Poll := { t := t, kind := Kind.keepalive }
def upd (t : Nat) : Poll := { t := t, kind := Kind.update }

/-- the literal kinds used in the examples are the rows of the generated table -/
example : Kind.ofName "nop" = some Kind.nop ∧ Kind.ofName "keepalive" = some Kind.keepalive ∧
    Kind.ofName "update" = some Kind.update ∧ Kind.ofName "no-such-kind" = none := by decide
example : Kind.nop.real = false ∧ Kind.keepalive.real = true ∧ Kind.keepalive.isKeepalive = true ∧
    Kind.update.real = true ∧ Kind.update.isKeepalive = false := by decide

/-- H = 3, last real message at 1000.999 s: the timer fires at 1004.000 s, a silence of
    3001 ms = H·1000 + 1 (the lower bound of `no_early_expiry` is attained) … -/
example : ((Sess.init 3 1000000 1000000).run [upd 1000999, nop 1003999, nop 1004000]).1.closed
    = some (1004000, 4, 0) := by decide
/-- … and with the last real message at 1000.000 s a poll at 1003.999 s (silence 3999 ms =
    (H+1)·1000 − 1) does not fire: the extra second of `expiry_by` is needed. -/
example : ((Sess.init 3 1000000 1000000).run [upd 1000000, nop 1003999]).1.closed = none := by decide
example : ((Sess.init 3 1000000 1000000).run [upd 1000000, nop 1003999, nop 1004000]).1.closed
    = some (1004000, 4, 0) := by decide
/-- a burst of real messages keeps the session up however long it lasts -/
example : ((Sess.init 3 0 0).run [upd 3000, ka 6000, upd 9000, ka 12000, nop 15999]).1.closed = none := by decide
/-- `Gaps` (hypothesis `hg` of `hold_expiry_window`) for δ = 100 -/
example : Gaps 100 1000000 [nop 1000100, nop 1000200, upd 1000250] := by simp [Gaps, nop, upd]

/-- H = 9 (keepalive 3 s), polls every 1000 ms from 1000.999: KEEPALIVEs at 1003.999, 1006.999 —
    gaps of 3000 ms, inside (2000, 3000 + δ) -/
example : kaTimes ((Sess.init 9 1000999 1000999).run
    [ka 1001999, nop 1002999, nop 1003999, ka 1004999, nop 1005999, nop 1006999]).2 = [1003999, 1006999] := by decide
/-- the gap bound is attained: SendTimer created at 1000.000, H = 3, δ = 1000: polls at 1000.999
    (not due: second 1000 < 1000 + 1) and 1001.999 → first KEEPALIVE 1999 ms after creation
    = ⌊3/3⌋·1000 + δ − 1 -/
example : kaTimes ((Sess.init 3 1000000 1000000).run [upd 1000999, upd 1001999]).2 = [1001999]
    ∧ Gaps 1000 1000000 [upd 1000999, upd 1001999] := by
  refine ⟨by decide, by simp [Gaps, upd]⟩

/-- H = 0: silence for a day does nothing; one KEEPALIVE is tolerated; the second gives 2/6 -/
example : ((Sess.init 0 0 0).run [nop 86400000, ka 86400001, upd 86400002]).1.closed = none := by decide
example : ((Sess.init 0 0 0).run [ka 1000, upd 2000, ka 3000, nop 4000]).1.closed = some (3000, 2, 6) := by decide
example : kaTimes ((Sess.init 0 0 0).run [nop 1000, nop 100000, ka 200000]).2 = [] := by decide

/-- our hold time 180, the peer's OPEN says 0: 181 s (and a day) of silence do nothing -/
example : ((Sess.establish 180 0 0 0).runEv
    [.out 100 .update, .poll (nop 181000), .poll (nop 182000), .poll (nop 86400000)]).1.closed = none := by decide
/-- H = 9 with an UPDATE written just before every due instant: the KEEPALIVEs still go out -/
example : kaTimes ((Sess.establish 9 180 0 0).runEv
    [.out 2900 .update, .poll (nop 3000), .out 5900 .update, .out 5950 .eor, .poll (nop 6000)]).2 = [3000, 6000] := by decide

/-- OPENCONFIRM, H = 3, wait entered at 1000.250: silent → 4/0 at 1003.250 (exactly 3000 ms, no
    whole-second slack); a KEEPALIVE complete at 1003.249 establishes; one at 1003.251 is too late;
    NOPs and an UPDATE: 5/2; before the deadline: still waiting -/
example : openConfirm 3 1000250 [nop 1000350, nop 1003200] 1003250 = .notify 1003250 4 0 := by decide
example : openConfirm 3 1000250 [nop 1000350] 1003249 = .waiting := by decide
example : openConfirm 3 1000250 [nop 1000350, ka 1003249] 1009000 = .established 1003249 := by decide
example : openConfirm 3 1000250 [nop 1000350, ka 1003251] 1009000 = .notify 1003250 4 0 := by decide
example : openConfirm 3 1000250 [upd 1001000, ka 1001001] 1009000 = .notify 1001000 5 2 := by decide
/-- hold time 0: a day in OPENCONFIRM, then the KEEPALIVE -/
example : openConfirm 0 0 [nop 1000] 86400000 = .waiting ∧
    openConfirm 0 0 [nop 1000, ka 86400000] 86400001 = .established 86400000 := by decide
/-- the established timer counts from the first KEEPALIVE (read at 2.900 s), not from 0 -/
example : ((Sess.afterOpenConfirm 3 180 0 2900 2900).run [nop 5999]).1.closed = none ∧
    ((Sess.afterOpenConfirm 3 180 0 2900 2900).run [nop 5999, nop 6000]).1.closed = some (6000, 4, 0) := by decide
example : Mono 0 [nop 1000350, ka 1003251] := by simp [Mono, nop, ka]

example : openWait 60 (some 59999) = .opened ∧ openWait 60 (some 60001) = .notify 5 1 := by decide

end Exa.Props.C12
