import ExaModel.Lemmas.DecodeCacheToy
import ExaModel.Generated.DecodeCacheTable
set_option linter.unusedVariables false
/-!
# C19 — Decoding does not depend on what was decoded before

Statement (properties.jsonl): the result of decoding a message depends only on its bytes and on
the negotiated parameters of the session it arrived on: for any sequence of messages received on
any number of concurrent sessions, each message yields the same routes, attributes and API
output as it would in a fresh process.  Objects shared between decoded messages (cached
attribute sets, singletons) are never altered by later processing.

Model: `Exa.DecodeCache` (M-DecodeCache).  A history is a `List (Params × Bytes)`: the attribute
block of each UPDATE with the negotiated parameters of the session it arrived on, in arrival
order, sessions interleaved arbitrarily.  `decodeAll P h` is what the process-wide
`AttributeCollection.cached/previous` logic hands out for each of them starting from a fresh
process, `decodeFresh P h = h.map parse` is what a fresh process yields for each.  The parse
function `P` is arbitrary (a parameter).

**Full statement** (what the property demands of the attribute cache):

    ∀ P h, decodeAll P h = decodeFresh P h

It is FALSE of the unchanged code (`c19_fails`, finding F8: the key is the bytes only, the parse
reads `negotiated.asn4` and `negotiated.aigp`).  Proved instead:
`c19_partial` (sessions agree on what the parse depends on), and the full statement for the
cache keyed by bytes + `(asn4, aigp)` (`c19_repaired`), under the hypothesis
`Parser.DependsOnlyOn` (= `parse_depends_only_on`: what a sound key must contain), which is tied to
the source by the generated table `reads` (`c19_reads_outside_mp_are_in_key`).
The second sentence of the property (shared objects never altered) is structural for values; the
one place where the code shares *mutable class state* between decoded objects is the
`kls.ID = code` rewrite of `Attribute.klass` / `Capability.klass`: harmless for attributes
(`c19_attr_klass_rewrite_harmless`), not for capabilities (`c19_cap_klass_rewrite_alters_earlier`).
-/
namespace Exa.Props.C19
open Exa Exa.DecodeCache Exa.DecodeCache.Toy Exa.Generated

/-- **C19 is false of the attribute cache as it is (finding F8).**  Two sessions that differ in
    `asn4` receiving the same block do not both get what a fresh process yields: the second one is
    served the first one's parse — with a parser whose stored results depend on nothing but
    `(asn4, aigp)` (`c19_fails_witness`).  Hence the negation of the full statement. -/
theorem c19_fails : ¬ ∀ (P : Parser Nat) (h : List (Params × Bytes)), decodeAll P h = decodeFresh P h := by
  intro hall
  have := hall toy [(s4, f8), (s2, f8)]
  revert this
  decide

/-- The witness, spelled out: the toy parser meets the key hypothesis of `c19_repaired` (its stored
    results depend on the parameters through `(asn4, aigp)` only), and the history "block
    `02 02 0001 0002 02 01 0003` on an ASN4 session, then on a 2-byte session" (corpus/C19/01) yields
    `[4, 4]` where fresh processes yield `[4, 2]`. -/
theorem c19_fails_witness :
    toy.DependsOnlyOn Params.attrKey ∧
      decodeAll toy [(s4, f8), (s2, f8)] = [4, 4] ∧ decodeFresh toy [(s4, f8), (s2, f8)] = [4, 2] :=
  ⟨toy_depends, by decide, by decide⟩

/-- The same failure through the other parameter the decoders read: an AIGP block parsed on a
    session where AIGP is enabled is served to a session where it is not. -/
theorem c19_fails_aigp : decodeAll toy [(s4ai, [26, 1]), (s4, [26, 1])] ≠ decodeFresh toy [(s4ai, [26, 1]), (s4, [26, 1])] := by
  decide

/-- **C19, partial (the unchanged code).**  If the stored results of the parse depend on the
    negotiated parameters only through `dep`, and all sessions of the history agree on `dep`,
    then every message of every history — any number of sessions, any interleaving, repeated
    blocks, MP / treat-as-withdraw / failing blocks in between — yields what a fresh process
    yields.  Missing for the full statement: sessions that differ in `dep` (= `asn4`, `aigp`). -/
theorem c19_partial {ρ δ : Type} [DecidableEq δ] (P : Parser ρ) (dep : Params → δ)
    (parse_depends_only_on : P.DependsOnlyOn dep)
    (h : List (Params × Bytes)) (agree : ∀ x ∈ h, ∀ y ∈ h, dep x.1 = dep y.1) :
    decodeAll P h = decodeFresh P h := by
  unfold decodeAll decodeFresh
  exact run_transparent (soundKey_bytes_on parse_depends_only_on h agree) h []
    (inv_nil _ _ _ _) (fun i hi => hi)

/-- **C19, full statement, for the cache keyed by the bytes and `(asn4, aigp)`** (the repair of
    F8): for every parse function whose stored results depend on the parameters only through
    what the key contains, every message of every history yields what a fresh process yields. -/
theorem c19_repaired {ρ : Type} (P : Parser ρ) (parse_depends_only_on : P.DependsOnlyOn Params.attrKey)
    (h : List (Params × Bytes)) :
    decodeAllFixed P h = decodeFresh P h := by
  unfold decodeAllFixed decodeFresh
  exact run_transparent (soundKey_full parse_depends_only_on) h [] (inv_nil _ _ _ _) (fun _ _ => trivial)

/-- The same, message by message: the `i`-th result is the parse of the `i`-th block under the
    parameters of the session it arrived on. -/
theorem c19_repaired_each {ρ : Type} (P : Parser ρ) (parse_depends_only_on : P.DependsOnlyOn Params.attrKey)
    (h : List (Params × Bytes)) (i : Nat) (hi : i < h.length) :
    (decodeAllFixed P h)[i]? = some (P.parse h[i].1 h[i].2) := by
  rw [c19_repaired P parse_depends_only_on h]
  simp [decodeFresh, hi]

/-- The repaired cache is still a cache: a block that parses to an ordinary attribute set and
    arrives twice in a row on sessions with the same `(asn4, aigp)` is parsed once. -/
theorem c19_repaired_still_caches {ρ : Type} (P : Parser ρ) (p p' : Params) (bs : Bytes)
    (hk : p.attrKey = p'.attrKey) (hplain : P.kind (P.parse p bs) = .plain) :
    runHits P.policy keyFull (fun x : Params × Bytes => P.parse x.1 x.2) [] [(p, bs), (p', bs)] = [false, true] := by
  simp [runHits, access, Store.after, Parser.policy, keyFull, hplain, Kind.effect, Kind.truthy, AList.lookup, hk]

/-- The model's store has the shape of the code's `(previous, cached)` pair: never two entries. -/
theorem c19_single_slot {ρ : Type} (P : Parser ρ) (st : State Bytes ρ) (x : Params × Bytes) (h : st.length ≤ 1) :
    (unpackCached P st x).1.length ≤ 1 := by
  unfold unpackCached unpackCachedK
  exact access_single_length rfl st _ _ h

/-- **The dict caches** (`Community.cache`, `LargeCommunity._instance_cache`,
    `UpdateCollection._EOR_CACHE`, `CapabilityCode._cache`) are keyed by the whole input of a pure
    constructor `mk`: over any history every lookup yields `mk key`. -/
theorem c19_dict_cache_transparent {κ ρ : Type} [DecidableEq κ] (mk : κ → ρ) (ks : List κ) :
    (run (Policy.dict ρ) (fun k : κ => k) mk [] ks).2 = ks.map mk := by
  apply run_transparent (U := fun _ => True) _ ks [] (inv_nil _ _ _ _) (fun _ _ => trivial)
  intro i j _ _ hk _ _
  simp only at hk
  rw [hk]

/-! ## Class attributes rewritten during dispatch -/

/-- **`Attribute.klass`'s `kls.ID = attribute_id` never alters a decoded attribute**: no
    attribute class is registered under two codes (generated table), so after any history of
    dispatches every attribute object ever returned still reads the code it was decoded from. -/
theorem c19_attr_klass_rewrite_harmless (dflt : Nat) (cs : List Nat) (i : Inst)
    (hi : some i ∈ (dispatchAll DecodeCacheTable.attrRegistry [] cs).2) :
    Inst.currentID (dispatchAll DecodeCacheTable.attrRegistry [] cs).1 dflt i = i.code :=
  dispatchAll_currentID (singleCodeB_sound (by decide +kernel)) dflt cs [] (regInv_nil _) i hi

/-- **`Capability.klass`'s `kls.ID = what` does alter an earlier decoded capability** (finding):
    `RouteRefresh` is registered for codes 2 and 128 (`MultiSession` for 68 and 131); after an OPEN
    with capability 128 has been decoded, the capability object of an OPEN decoded earlier from
    code 2 reads `ID = 128` ("Cisco" variant in its JSON and text). -/
theorem c19_cap_klass_rewrite_alters_earlier :
    ∃ (cs : List Nat) (i : Inst), some i ∈ (dispatchAll DecodeCacheTable.capRegistry [] cs).2 ∧
      Inst.currentID (dispatchAll DecodeCacheTable.capRegistry [] cs).1 2 i ≠ i.code :=
  ⟨[2, 128], { cls := 12, code := 2 }, by decide, by decide⟩

/-- The capability registry does register one class under two codes. -/
theorem c19_cap_registry_not_single_code : singleCodeB DecodeCacheTable.capRegistry = false := by decide

/-! ## Tie of the key hypothesis to the source -/

/-- Every read of a negotiated field on the decode side of the attribute package is either in a
    module whose results are never stored (`uncachedModules`: MP_REACH / MP_UNREACH) or reads a
    field the repaired key contains.  A new dependence added in /repo breaks this obligation. -/
theorem c19_reads_outside_mp_are_in_key :
    ∀ row ∈ DecodeCacheTable.reads, row.1 ∈ DecodeCacheTable.uncachedModules ∨ row.2.2 ∈ ["asn4", "aigp"] := by
  decide +kernel

/-- The results that are never stored are exactly those carrying MP_REACH_NLRI (14) or
    MP_UNREACH_NLRI (15) (`Kind.mp`). -/
theorem c19_uncached_codes : DecodeCacheTable.uncachedCodes = [14, 15] := by decide

/-! ## Non-vacuity -/

/-- the hypotheses of `c19_repaired` hold of the toy parser, which does depend on `asn4`, on
    `aigp`, and (for blocks that are never stored) on ADD-PATH -/
example : toyParse s4 f8 ≠ toyParse s2 f8 := by decide
example : toyParse s4ai [26, 1] ≠ toyParse s4 [26, 1] := by decide
example : toyParse s4ap [14, 0] ≠ toyParse s4 [14, 0] := by decide

/-- a mixed history over four sessions: what the unchanged cache yields differs from a fresh
    process at three positions (the block `f8` served across `asn4` twice, the AIGP block `[26, 1]`
    across `aigp` once) … -/
def mixed : List (Params × Bytes) :=
  [(s4, f8), (s4, f8), (s2, f8), (s4ap, [14, 0]), (s2, f8), (s4, f8), (s4, [255]), (s2, f8), (s4, [254]),
   (s4ai, [26, 1]), (s4, [26, 1]), (s4, []), (s4, []), (s4ap, f8)]

example : decodeFresh toy mixed = [4, 4, 2, 1001, 2, 4, 999, 2, 998, 26, 27, 0, 0, 4] := by decide +kernel
example : decodeAll toy mixed = [4, 4, 4, 1001, 2, 2, 999, 2, 998, 26, 26, 0, 0, 4] := by decide +kernel
/-- … the repaired cache yields the fresh results, and still serves from the cache -/
example : decodeAllFixed toy mixed = decodeFresh toy mixed := by decide +kernel
example : runHits toy.policy keyFull (fun x => toy.parse x.1 x.2) [] mixed =
    [false, true, false, false, false, false, false, false, false, false, false, false, false, false] := by decide +kernel
example : runHits toy.policy keyBytes (fun x => toy.parse x.1 x.2) [] mixed =
    [false, true, true, false, false, true, false, true, false, false, true, false, false, false] := by decide +kernel
/-- `c19_partial` applies to a non-trivial history (two sessions that differ in ADD-PATH only) -/
example : decodeAll toy [(s4, f8), (s4ap, f8), (s4ap, [14, 0]), (s4, f8)] = [4, 4, 1001, 4] := by decide
example : ∀ x ∈ [(s4, f8), (s4ap, f8), (s4ap, [14, 0]), (s4, f8)], ∀ y ∈ [(s4, f8), (s4ap, f8), (s4ap, [14, 0]), (s4, f8)],
    Params.attrKey x.1 = Params.attrKey y.1 := by decide

end Exa.Props.C19
