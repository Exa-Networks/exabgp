import ExaModel.Lemmas.RibDown
set_option linter.unusedVariables false
/-!
# C11 — After any session loss the peer is fully resynchronised (RIB part)

Statement (properties.jsonl): if a session is lost at any point — before, during or after the
transmission of a batch of UPDATEs — then after the next successful establishment ExaBGP
re-advertises its complete current Adj-RIB-Out (configured routes plus API-announced routes not
since withdrawn, when adj-rib-out is kept) so that the peer table again equals the intended
table.  Routes withdrawn while the session was down are not re-advertised.

Model: M-Rib.  "Any point" is *any state satisfying the invariant `Good`* — `good_run` shows every
state reachable from session start by any interleaving of RIB operations and transmission
steps is one, including those with a partially consumed generator.  `lost` is
`Peer._reset → reset_rib`, the operations while down are the RIB operations (API / reload),
`established` is the `replace_restart` of `_main`'s prologue; the new session starts with
`include_withdraw = False` and an empty peer table.

Premise kept from the property text: every cached route is of a family the RIB serves
(`FamOK`) and adj-rib-out is kept.  The End-of-RIB part: `ESess` adds `send_eor` and the
`_send_eor_messages` step that `_main` performs right after `_send_route_updates` in every
iteration (`c11_eor_*` below); that the real main loop calls the two in that order is checked by
the correspondence (operation `eor`) and end to end by the session rig.
-/
namespace Exa.Props.C11
open Exa Exa.Rib

/-- The state after re-establishment satisfies the convergence invariant against an EMPTY
    peer table, so everything proved for a session start (C04) applies again — and to any number
    of successive losses. -/
theorem c11_good_again (s : Sess) (t : Table) (g : Good s t)
    (opsDown : List Op) (hd : ∀ op ∈ opsDown, op.isRibOnly = true)
    (prev new : List Route)
    (hf : FamOK ((s.step .lost).1.run opsDown).1.rib) :
    Good ((((s.step .lost).1.run opsDown).1).step (.established prev new)).1 [] :=
  (reestablished (good_down g) rfl rfl hd prev new hf).1

/-- **C11 (RIB part, full statement).** Cut the session in any reachable state, perform any RIB
    operations while it is down, re-establish, let anything happen in the new session, drain:
    the messages of the new session applied to an EMPTY table give exactly the reported
    Adj-RIB-Out. -/
theorem c11_resync (s : Sess) (t : Table) (g : Good s t)
    (opsDown : List Op) (hd : ∀ op ∈ opsDown, op.isRibOnly = true)
    (prev new : List Route)
    (hf : FamOK ((s.step .lost).1.run opsDown).1.rib)
    (opsUp : List Op) (hu : ∀ op ∈ opsUp, op.isUp = true) (n : Nat) :
    let s2 := ((((s.step .lost).1.run opsDown).1).step (.established prev new)).1
    let r := s2.run opsUp
    AList.lookup n (applyEvs [] (r.2 ++ r.1.drain.2)) = r.1.drain.1.rib.cacheView n :=
  (c11_good_again s t g opsDown hd prev new hf).converges hu n

/-- Nothing is put on the wire while the session is down. -/
theorem c11_silent_while_down (s : Sess) (t : Table) (g : Good s t)
    (opsDown : List Op) (hd : ∀ op ∈ opsDown, op.isRibOnly = true) :
    ((s.step .lost).1.run opsDown).2 = [] :=
  (ribOnly_run (s.step .lost).1 opsDown hd).1

/-- **Withdrawn while down is not re-advertised.** If the last operation while the session was
    down is the withdraw of a prefix, then after re-establishment and drain the peer does not
    hold it. -/
theorem c11_withdrawn_while_down (s : Sess) (t : Table) (g : Good s t)
    (opsDown : List Op) (hd : ∀ op ∈ opsDown, op.isRibOnly = true) (n f : Nat)
    (prev new : List Route)
    (hf : FamOK ((s.step .lost).1.run (opsDown ++ [Op.del n f])).1.rib) :
    let s2 := ((((s.step .lost).1.run (opsDown ++ [Op.del n f])).1).step (.established prev new)).1
    AList.lookup n (applyEvs [] s2.drain.2) = none := by
  intro s2
  have hd' := forall_mem_concat hd (rfl : (Op.del n f).isRibOnly = true)
  have d1 := down_closed.run (s.step .lost).1 opsDown hd (good_down g)
  -- `replace_restart` removes prefixes or leaves them as they are, and the withdraw removed this one
  rw [(reestablished (good_down g) rfl rfl hd' prev new hf).2 n, run_append_fst]
  exact (congrArg _ ((del_cacheView _ n f d1.cacheOn n).trans (if_pos rfl))).trans (ite_self _)

/-- **End-of-RIB never overtakes the table.** `_send_eor_messages` sends the markers only when
    no update generator is in flight (and only if they have not been sent yet). -/
theorem c11_eor_needs_idle (s : ESess) (h : (s.step .eor).2 ≠ []) :
    s.core.inflight = none ∧ s.sendEor = true := by
  unfold ESess.step at h
  by_cases hc : (s.core.inflight.isNone && s.sendEor) = true
  · simp only [Bool.and_eq_true, Option.isNone_iff_eq_none] at hc; exact hc
  · simp [hc] at h

/-- One End-of-RIB marker per family the RIB serves, when they are sent. -/
theorem c11_eor_per_family (s : ESess) (h : (s.step .eor).2 ≠ []) :
    (s.step .eor).2 = s.core.rib.families.map Ev.eor := by
  unfold ESess.step at h ⊢
  by_cases hc : (s.core.inflight.isNone && s.sendEor) = true
  · simp [hc]
  · simp [hc] at h

/-- **Sent once per session**: once the markers have gone out, nothing that can happen in the
    session (any operations, any transmission steps, further `_send_eor_messages` calls) sends
    another one. -/
theorem c11_eor_once (s : ESess) (hn : NoEorInflight s.core) (h : (s.step .eor).2 ≠ [])
    (ops : List EOp) (hops : ∀ o ∈ ops, o.isUp = true) :
    ∀ e ∈ ((s.step .eor).1.run ops).2, isEorEv e = false := by
  have hc : (s.core.inflight.isNone && s.sendEor) = true := by
    by_cases hc : (s.core.inflight.isNone && s.sendEor) = true
    · exact hc
    · simp [ESess.step, hc] at h
  apply eor_not_repeated _ ops _ _ hops
  · simp [ESess.step, hc]
  · simpa [ESess.step, hc] using hn

/-- **End-of-RIB follows the complete table.** After re-establishment (any state `s2` satisfying
    the invariant against an empty peer table and with no generator yet, see `c11_good_again`),
    whatever RIB operations arrive before the main loop's first iteration, if the loop then transmits (`start`, `k`
    generator steps) without further API activity and `_send_eor_messages` sends the markers,
    the peer's table at that moment is exactly the reported Adj-RIB-Out. -/
theorem c11_eor_after_table (s2 : Sess) (g : Good s2 []) (h0 : s2.inflight = none) (opsA : List Op)
    (hA : ∀ op ∈ opsA, op.isRibOnly = true) (k : Nat) (n : Nat)
    (hem : (({ core := (s2.run (opsA ++ [Op.start] ++ List.replicate k Op.next)).1, sendEor := true } : ESess).step
      .eor).2 ≠ []) :
    AList.lookup n (applyEvs [] (s2.run (opsA ++ [Op.start] ++ List.replicate k Op.next)).2)
      = (s2.run (opsA ++ [Op.start] ++ List.replicate k Op.next)).1.rib.cacheView n := by
  have hidle := (c11_eor_needs_idle _ hem).1
  have hup : ∀ op ∈ opsA ++ [Op.start] ++ List.replicate k Op.next, op.isUp = true := by
    intro op hop
    simp only [List.mem_append, List.mem_singleton, List.mem_replicate] at hop
    rcases hop with (h | h) | h
    · exact Op.isUp_of_isRibOnly (hA op h)
    · subst h; rfl
    · rw [h.2]; rfl
  -- the queues after `start; next^k` are those `start` left: nothing pending
  have hnp : (s2.run (opsA ++ [Op.start] ++ List.replicate k Op.next)).1.rib.pending = false := by
    rw [run_append_fst, run_append_fst, nexts_rib]
    exact start_not_pending _ ((ribOnly_run s2 opsA hA).2.1.trans h0)
  exact (good_run s2 [] _ hup g).idle hidle hnp n

end Exa.Props.C11
