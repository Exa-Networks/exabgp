import ExaModel.Lemmas.PackWire
/-!
# C09 — generated UPDATEs fit the negotiated size and lose nothing

Statement (properties.jsonl): for any set of routes to announce and withdraw, any attribute set
and either negotiated maximum message size, every UPDATE ExaBGP generates is no longer than the
negotiated maximum and parses on its own; taken together the generated messages announce every
requested route of a negotiated family with the requested attributes and its own next hop,
withdraw every requested withdrawal, and carry nothing else.  When the attributes leave no room
for even one prefix no message is produced for those routes rather than an oversized one.

Model: `Exa.Pack` (M-Pack), `pack : Input → Out` = `UpdateCollection.messages(negotiated,
include_withdraw)` over sizes, for EVERY `M`, attribute length, number and size of NLRIs, number
of families and next hops, mixed or not — the code after the repairs 9c66abf (F19) and b4bc906
(IPv4 multicast).  `(pack i).status` says how the generator ended: `ok`, `noRoom` (`msg_size ≤ 0`:
one `log.critical`, `return`, nothing sent), `tooLong` (`struct.error` from the 16-bit length
field, which needs a negotiated maximum above 65535).

`c09` is the property: for every input with `M ≤ 65535`
  * the generator ends without an exception,
  * every message is within the negotiated maximum,
  * the NLRIs announced are EXACTLY the requested announces of negotiated families that fit alone
    with the attributes, each in a message that carries the attribute block, MP routes under their
    own next hop; the NLRIs withdrawn are exactly the requested withdraws that fit alone (none
    without `include_withdraw`),
  * so a prefix the attributes leave no room for is in no message, and nothing else is dropped.
The remaining theorems are its parts, stated separately with weaker hypotheses where they need less.

"Parses on its own": `c09_parses_alone` (with `msg_len_is_encoding_length` and
`c09_decoded_union`) connects the size model to the RFC reference codec M-Wire: under the side
conditions `Realises ρ i` — `ρ` supplies wire NLRIs, next-hop bytes and an attribute block whose
reference encodings have exactly the sizes M-Pack was given — the length M-Pack computes for a
message IS the length of the reference encoding of the UPDATE the message stands for, and the
RFC reference decoder accepts that encoding, alone, and returns that UPDATE.  What remains for the
correspondence run: that ExaBGP's bytes are those of the reference encoder (C01/C15) and that
ExaBGP's own decoder accepts them (run on every emitted message).  Hypotheses that are part of the
statement: an NLRI has at least one byte (`PosSizes`), `famOrder` lists the families present
(`FamCover`: it is the iteration of the Python set built from them).
-/
namespace Exa.Props.C09
open Exa Exa.Pack

/-- The extended-length switch: the length the size check `_attr_len` predicts is the length of
    what `_attribute_header(code, len(payload)) + payload` puts on the wire, on both sides of 255. -/
theorem ext_len_switch (a : Mp) : a.wire = a.payload + (if a.payload > 255 then 4 else 3) := by
  rw [wire_eq]; rfl

/-- **Fits — unconditionally.** Every message generated is within the negotiated maximum, whatever
    the routes, the attributes and `M`: an NLRI that cannot fit alone is left out, never sent
    oversized. -/
theorem c09_fits (i : Input) : ∀ m ∈ (pack i).msgs, m.len ≤ i.M :=
  fun m hm => packRaw_fits i m (pack_sub i m hm)

/-- **No exception.** On a session whose maximum is at most 65535 (every BGP session: RFC 4271 /
    RFC 8654) `messages` never raises — in the model, `status` is never `tooLong`: it runs to its end
    (`ok`), or returns at once because the attributes alone reach the maximum (`noRoom`, nothing sent).  The `RuntimeError` of the old
    code does not exist any more (`Status` has no such case), `struct.error` cannot happen. -/
theorem c09_no_exception (i : Input) (hM : i.M ≤ 65535) :
    (pack i).status = .ok ∨ ((pack i).status = .noRoom ∧ (pack i).msgs = [] ∧ i.M ≤ 23 + chosenAttr i) := by
  rw [pack_eq_packRaw i hM]
  exact packRaw_status i

/-- **Complete.** Every requested announce of a negotiated family that fits alone with the
    attributes is in a message that carries the attribute block; with `include_withdraw`, every
    requested withdraw of a negotiated family that fits alone is in a message.  For ANY collection
    (mixed families, announces and withdraws together, several next hops). -/
theorem c09_complete (i : Input) (hM : i.M ≤ 65535) (hp : PosSizes i) (hf : FamCover i) :
    (∀ x ∈ i.anns, x.fam ∈ i.negotiated → fitsAnn i x →
        ∃ m ∈ (pack i).msgs, x ∈ m.annsOf ∧ m.attrs = true) ∧
    (i.includeWithdraw = true → ∀ x ∈ i.wds, x.fam ∈ i.negotiated → fitsWd i x →
        ∃ m ∈ (pack i).msgs, x ∈ m.wdsOf) := by
  rw [pack_eq_packRaw i hM]
  obtain ⟨ca, cw⟩ := packRaw_placed i hp hf
  refine ⟨fun x hx hn hfit => ?_, fun hi x hx hn hfit => ?_⟩
  · obtain ⟨m, hm, hat, h⟩ := ca x hx hn hfit
    refine ⟨m, hm, ?_, hat⟩
    rw [annsOf_eq]
    split at h
    · exact List.mem_append_left _ h
    · exact List.mem_append_right _ h
  · obtain ⟨m, hm, h⟩ := cw hi x hx hn hfit
    refine ⟨m, hm, ?_⟩
    rw [wdsOf_eq]
    split at h
    · exact List.mem_append_left _ h
    · exact List.mem_append_right _ h

/-- **Nothing else, and nothing that does not fit.** Every NLRI announced by a message is a
    requested announce of a negotiated family that fits alone; every NLRI withdrawn is a requested
    withdraw of a negotiated family that fits alone and `include_withdraw` was set; the classic
    fields only hold what the code classifies as IPv4 unicast (`v4`), the MP attributes only the
    rest.  In particular a prefix the attributes leave no room for is in no message. -/
theorem c09_nothing_else (i : Input) : ∀ m ∈ (pack i).msgs,
    (∀ x ∈ m.annsOf, x ∈ i.anns ∧ x.fam ∈ i.negotiated ∧ fitsAnn i x) ∧
    (∀ x ∈ m.wdsOf, x ∈ i.wds ∧ x.fam ∈ i.negotiated ∧ fitsWd i x ∧ i.includeWithdraw = true) ∧
    (∀ x ∈ m.ann4 ++ m.wd4, x.v4 = true) ∧
    (∀ x ∈ oitems m.reach ++ oitems m.unreach, x.v4 = false) := by
  intro m hm
  have s := packRaw_sections i m (pack_sub i m hm)
  have re : ∀ x ∈ oitems m.reach, x ∈ i.anns ∧ x.fam ∈ i.negotiated ∧ fitsAnn i x ∧ x.v4 = false := fun x h => by
    obtain ⟨r, hr, h⟩ := mem_oitems.1 h
    exact (s.r r hr).request h
  have un : ∀ x ∈ oitems m.unreach,
      x ∈ i.wds ∧ x.fam ∈ i.negotiated ∧ fitsWd i x ∧ i.includeWithdraw = true ∧ x.v4 = false := fun x h => by
    obtain ⟨u, hu, h⟩ := mem_oitems.1 h
    exact (s.u u hu).request h
  refine ⟨fun x hx => ?_, fun x hx => ?_, fun x hx => ?_, fun x hx => ?_⟩
  · rw [annsOf_eq] at hx
    rcases List.mem_append.1 hx with h | h
    · have a := (s.a4 x h).request
      exact ⟨a.1, a.2.1, a.2.2.1⟩
    · exact ⟨(re x h).1, (re x h).2.1, (re x h).2.2.1⟩
  · rw [wdsOf_eq] at hx
    rcases List.mem_append.1 hx with h | h
    · have w := (s.w4 x h).request
      exact ⟨w.1, w.2.1, w.2.2.1, w.2.2.2.1⟩
    · exact ⟨(un x h).1, (un x h).2.1, (un x h).2.2.1, (un x h).2.2.2.1⟩
  · rcases List.mem_append.1 hx with h | h
    · exact (s.a4 x h).request.2.2.2
    · exact (s.w4 x h).request.2.2.2.2
  · rcases List.mem_append.1 hx with h | h
    · exact (re x h).2.2.2
    · exact (un x h).2.2.2.2

/-- **Own next hop.** An MP_REACH_NLRI of the output is for one family and one next hop (its
    header is AFI, SAFI, length, that next hop, reserved) and every NLRI in it was requested with
    exactly that family and next hop; an MP_UNREACH_NLRI is for one family. -/
theorem c09_own_nexthop (i : Input) : ∀ m ∈ (pack i).msgs,
    (∀ r, m.reach = some r → r.hdr = 5 + r.nhLen ∧
        ∀ x ∈ r.items, x.fam = r.fam ∧ x.nh = r.nh ∧ x.nhLen = r.nhLen) ∧
    (∀ u, m.unreach = some u → u.hdr = 3 ∧ ∀ x ∈ u.items, x.fam = u.fam) := by
  intro m hm
  have s := packRaw_sections i m (pack_sub i m hm)
  constructor
  · intro r hr
    obtain ⟨h1, _, h2⟩ := s.r r hr
    exact ⟨h1, fun x hx => ⟨(h2 x hx).2.1, (h2 x hx).2.2.1, (h2 x hx).2.2.2.1⟩⟩
  · intro u hu
    obtain ⟨_, h1, _, h2⟩ := s.u u hu
    exact ⟨h1, fun x hx => (h2 x hx).2.1⟩

/-- **The attribute block travels with every announce.** -/
theorem c09_attrs_present (i : Input) (hp : PosSizes i) : ∀ m ∈ (pack i).msgs, m.annsOf ≠ [] → m.attrs = true := by
  intro m hm hne
  have s := packRaw_sections i m (pack_sub i m hm)
  rcases s.att with h | ⟨h0, hr⟩
  · exact h
  · exfalso
    apply hne
    rw [annsOf_eq, hr]
    have : Pos m.ann4 := fun y hy => hp.1 y (List.mem_filter.1 (s.a4 y hy).1).1
    simp [(sz_eq_zero_of_pos this).1 h0]

/-- **No room at all.** When the attribute block alone (with the 23 bytes of framing) reaches the
    negotiated maximum, no message is produced. -/
theorem c09_no_room (i : Input) (h : i.M ≤ 23 + chosenAttr i) : (pack i).msgs = [] := by
  have := packRaw_no_room i h
  simp [pack, this, cut]

/-- **C09.** For every collection on a session whose maximum is at most 65535: no exception; every
    message within the maximum; announced = requested ∩ negotiated ∩ fits-alone, with the
    attribute block and under its own next hop; withdrawn = requested ∩ negotiated ∩ fits-alone
    (when `include_withdraw`); nothing else. -/
theorem c09 (i : Input) (hM : i.M ≤ 65535) (hp : PosSizes i) (hf : FamCover i) :
    (pack i).status ≠ .tooLong ∧
    (∀ m ∈ (pack i).msgs, m.len ≤ i.M) ∧
    (∀ x, (∃ m ∈ (pack i).msgs, x ∈ m.annsOf) ↔ (x ∈ i.anns ∧ x.fam ∈ i.negotiated ∧ fitsAnn i x)) ∧
    (∀ m ∈ (pack i).msgs, m.annsOf ≠ [] → m.attrs = true) ∧
    (∀ x, (∃ m ∈ (pack i).msgs, x ∈ m.wdsOf) ↔
        (x ∈ i.wds ∧ x.fam ∈ i.negotiated ∧ fitsWd i x ∧ i.includeWithdraw = true)) ∧
    (∀ m ∈ (pack i).msgs, ∀ r, m.reach = some r →
        ∀ x ∈ r.items, x.fam = r.fam ∧ x.nh = r.nh ∧ x.nhLen = r.nhLen) := by
  have hc := c09_complete i hM hp hf
  refine ⟨?_, c09_fits i, ?_, c09_attrs_present i hp, ?_, ?_⟩
  · rcases c09_no_exception i hM with h | ⟨h, _, _⟩ <;> simp [h]
  · intro x
    constructor
    · rintro ⟨m, hm, hx⟩; exact (c09_nothing_else i m hm).1 x hx
    · rintro ⟨hx, hn, hfit⟩
      obtain ⟨m, hm, hxm, _⟩ := hc.1 x hx hn hfit
      exact ⟨m, hm, hxm⟩
  · intro x
    constructor
    · rintro ⟨m, hm, hx⟩; exact (c09_nothing_else i m hm).2.1 x hx
    · rintro ⟨hx, hn, hfit, hi⟩
      exact hc.2 hi x hx hn hfit
  · intro m hm r hr x hx
    exact ((c09_own_nexthop i m hm).1 r hr).2 x hx

/-! ## The byte level: what a message stands for (M-Pack ↔ M-Wire)

`realise ρ m` (Lemmas/PackWire.lean) is the `Exa.Wire.UpdateSem` of a message of the partition:
Withdrawn Routes = the wire NLRIs of `m.wd4`; path attributes = MP_UNREACH_NLRI (if any), the common
block `ρ.blk` (if `m.attrs`), MP_REACH_NLRI with the group's next hop (if any), in the order
`messages` concatenates them; NLRI = the wire NLRIs of `m.ann4`.  `Realises ρ i` are the exact side
conditions: `ρ.p.msgSize = i.M ≤ 65535`; the block encodes to `chosenAttr i` bytes, is well formed,
has one attribute per code and neither MP attribute, and holds ORIGIN/AS_PATH(/NEXT_HOP) when MP
(IPv4) routes are announced; every requested NLRI has a well-formed wire form whose encoding (in the
classic field, resp. in the MP attribute of its supported family) has the size M-Pack uses; every
MP next hop has bytes of the length M-Pack uses, a length the family allows. -/

/-- **The size arithmetic is the byte layout.** The length M-Pack computes for a message — 23 +
    attribute block, 3/4-byte attribute headers, MP overhead `5 + nhLen` / `3` — is 19 (header) + the
    length of the RFC reference encoding of the UPDATE the message stands for. -/
theorem msg_len_is_encoding_length (ρ : Real) (i : Input) (H : Realises ρ i) :
    ∀ m ∈ (pack i).msgs, m.len = 19 + (Wire.encodeUpdate ρ.p (realise ρ m)).length :=
  fun m hm => realise_len H (packRaw_sections i m (pack_sub i m hm))

/-- **Every message parses on its own.** The RFC reference decoder, given the reference encoding of
    the UPDATE a message stands for and nothing else, accepts it (size, syntax, attribute flags and
    lengths, duplicate / mandatory attribute and MP next-hop checks) and returns exactly that UPDATE. -/
theorem c09_parses_alone (ρ : Real) (i : Input) (H : Realises ρ i) :
    ∀ m ∈ (pack i).msgs,
      Wire.decodeUpdate ρ.p (Wire.encodeUpdate ρ.p (realise ρ m)) = .ok (realise ρ m) :=
  fun m hm => Wire.decodeUpdate_encodeUpdate ρ.p _
    (realise_wf H (packRaw_sections i m (pack_sub i m hm)) (c09_fits i m hm))

/-- **What the messages decode to, taken together, is the request.**
    (a) every requested announce of a negotiated family that fits alone is announced by the decoding
    of some message — in the NLRI field for what the code classifies as IPv4 unicast, else in an
    MP_REACH_NLRI of its family under its own next hop — and that decoding carries the whole attribute
    block; every such withdraw is withdrawn by the decoding of some message;
    (b) conversely everything any message decodes to — NLRI field, Withdrawn Routes, every
    MP_REACH_NLRI / MP_UNREACH_NLRI entry — is the wire form of a requested route of a negotiated
    family that fits alone (withdraws only with `include_withdraw`). -/
theorem c09_decoded_union (ρ : Real) (i : Input) (H : Realises ρ i) (hp : PosSizes i) (hf : FamCover i) :
    (∀ x ∈ i.anns, x.fam ∈ i.negotiated → fitsAnn i x →
      ∃ m ∈ (pack i).msgs, ∃ u, Wire.decodeUpdate ρ.p (Wire.encodeUpdate ρ.p (realise ρ m)) = .ok u ∧
        (∀ a ∈ ρ.blk, a ∈ u.attrs) ∧
        (if x.v4 then ρ.nl x ∈ u.nlri
         else ((ρ.famOf x.fam).1, (ρ.famOf x.fam).2, Wire.nhAddr (ρ.famOf x.fam).2 (ρ.nhb x.nh), ρ.nl x)
                ∈ Wire.mpAnnounces u.attrs)) ∧
    (i.includeWithdraw = true → ∀ x ∈ i.wds, x.fam ∈ i.negotiated → fitsWd i x →
      ∃ m ∈ (pack i).msgs, ∃ u, Wire.decodeUpdate ρ.p (Wire.encodeUpdate ρ.p (realise ρ m)) = .ok u ∧
        (if x.v4 then ρ.nl x ∈ u.withdrawn
         else ((ρ.famOf x.fam).1, (ρ.famOf x.fam).2, Wire.eraseLabels (ρ.nl x)) ∈ Wire.mpWithdraws u.attrs)) ∧
    (∀ m ∈ (pack i).msgs, ∀ u, Wire.decodeUpdate ρ.p (Wire.encodeUpdate ρ.p (realise ρ m)) = .ok u →
      (∀ n ∈ u.nlri, ∃ x ∈ i.anns, x.fam ∈ i.negotiated ∧ fitsAnn i x ∧ x.v4 = true ∧ n = ρ.nl x) ∧
      (∀ t ∈ Wire.mpAnnounces u.attrs, ∃ x ∈ i.anns, x.fam ∈ i.negotiated ∧ fitsAnn i x ∧ x.v4 = false ∧
          t = ((ρ.famOf x.fam).1, (ρ.famOf x.fam).2, Wire.nhAddr (ρ.famOf x.fam).2 (ρ.nhb x.nh), ρ.nl x)) ∧
      (∀ n ∈ u.withdrawn, ∃ x ∈ i.wds, x.fam ∈ i.negotiated ∧ fitsWd i x ∧ i.includeWithdraw = true ∧ x.v4 = true ∧ n = ρ.nl x) ∧
      (∀ t ∈ Wire.mpWithdraws u.attrs, ∃ x ∈ i.wds, x.fam ∈ i.negotiated ∧ fitsWd i x ∧ i.includeWithdraw = true ∧ x.v4 = false ∧
          t = ((ρ.famOf x.fam).1, (ρ.famOf x.fam).2, Wire.eraseLabels (ρ.nl x)))) := by
  have hpa := c09_parses_alone ρ i H
  rw [pack_eq_packRaw i H.small] at hpa ⊢
  obtain ⟨ca, cw⟩ := packRaw_placed i hp hf
  have sec := packRaw_sections i
  refine ⟨fun x hx hn hfit => ?_, fun hi x hx hn hfit => ?_, fun m hm u hu => ?_⟩
  · obtain ⟨m, hm, hat, h⟩ := ca x hx hn hfit
    refine ⟨m, hm, realise ρ m, hpa m hm, fun a ha => by simp [realise, hat, ha], ?_⟩
    cases hv : x.v4 <;> simp only [hv, if_true, if_false, Bool.false_eq_true] at h ⊢
    · obtain ⟨r, hr, h⟩ := mem_oitems.1 h
      obtain ⟨_, hf, hnh, _⟩ := (sec m hm).r r hr |>.2.2 x h
      exact (mpAnnounces_realise H m _).2 ⟨r, hr, x, h, by rw [hf, hnh]⟩
    · exact List.mem_map_of_mem h
  · obtain ⟨m, hm, h⟩ := cw hi x hx hn hfit
    refine ⟨m, hm, realise ρ m, hpa m hm, ?_⟩
    cases hv : x.v4 <;> simp only [hv, if_true, if_false, Bool.false_eq_true] at h ⊢
    · obtain ⟨u, hu, h⟩ := mem_oitems.1 h
      exact (mpWithdraws_realise H m _).2 ⟨u, hu, x, h, by rw [((sec m hm).u u hu).2.2.2 x h |>.2.1]⟩
    · exact List.mem_map_of_mem h
  · rw [hpa m hm] at hu
    cases hu
    have s := sec m hm
    refine ⟨fun n hn => ?_, fun t ht => ?_, fun n hn => ?_, fun t ht => ?_⟩
    · obtain ⟨x, hx, rfl⟩ := List.mem_map.1 hn
      obtain ⟨h1, h2, h3, h4⟩ := (s.a4 x hx).request
      exact ⟨x, h1, h2, h3, h4, rfl⟩
    · obtain ⟨r, hr, x, hx, rfl⟩ := (mpAnnounces_realise H m t).1 ht
      obtain ⟨h1, h2, h3, h4⟩ := (s.r r hr).request hx
      obtain ⟨_, hf, hnh, _⟩ := (s.r r hr).2.2 x hx
      exact ⟨x, h1, h2, h3, h4, by rw [hf, hnh]⟩
    · obtain ⟨x, hx, rfl⟩ := List.mem_map.1 hn
      obtain ⟨h1, h2, h3, h4, h5⟩ := (s.w4 x hx).request
      exact ⟨x, h1, h2, h3, h4, h5, rfl⟩
    · obtain ⟨v, hv, x, hx, rfl⟩ := (mpWithdraws_realise H m t).1 ht
      obtain ⟨h1, h2, h3, h4, h5⟩ := (s.u v hv).request hx
      exact ⟨x, h1, h2, h3, h4, h5, by rw [((s.u v hv).2.2.2 x hx).2.1]⟩

/-! ## The two points that were excluded before the repair (F19), on the repaired model

`unfitInput` and `mixedInput` are defined next to the model (`Model/Pack.lean`); the harness checks
through `drv_pack` (`pack witness unfit|mixed`) that they are exactly the inputs measured on the real
objects of corpus/C09/f19-oversize-4097.json and corpus/C09/f19-runtime-error.json, and that the real
code does what these examples say. -/

/-- was: messages of 4094 and **4097** bytes on a 4096 session.  Now the /32 that cannot fit alone
    (23 + 4069 + 5 = 4097) is left out with one log line and the /8 is sent. -/
example : (pack unfitInput).status = .ok ∧ (pack unfitInput).msgs.map (·.len) = [4094]
    ∧ (pack unfitInput).msgs.map (fun m => m.ann4.map (·.id)) = [[1]] ∧ logged unfitInput = 1
    ∧ ¬ fitsAnn unfitInput (nlri4 2 5) := by decide +kernel

/-- was: `RuntimeError`, nothing sent.  Now the MP_REACH (58 bytes) goes in a first message and the
    MP_UNREACH, which does not fit next to it (58 + 23 > 60), in a second one. -/
example : (pack mixedInput).status = .ok ∧ (pack mixedInput).msgs.map (·.len) = [4094, 4059]
    ∧ (pack mixedInput).msgs.map (fun m => ((oitems m.reach).map (·.id), (oitems m.unreach).map (·.id)))
        = [([1, 2], []), ([], [3])] ∧ logged mixedInput = 0 := by decide +kernel

def v4 (id size : Nat) : Nlri := nlri4 id size
def v6 (id size nh : Nat) : Nlri := nlri6 id size nh

/-- Thirteen IPv4 announces and a withdraw that need two messages (the first one exactly full),
    then two MP families; two next hops in family 3; reach and unreach of family 3 share a message;
    one route (id 27) is of a family that is not negotiated; one IPv6 route (id 30, 90 bytes with a
    16-byte next hop → 114-byte attribute) cannot fit in the 60 bytes the attributes leave. -/
def demo : Input :=
  { M := 100, attrDef := 17, attrNoDef := 0, negotiated := [1, 3, 4], simple := [1, 2, 3, 4], famOrder := [4, 3],
    anns := (List.range 13).map (fun k => v4 (k + 1) 5)
      ++ [{ (v6 24 2 1) with fam := 4 }, v6 25 3 1, v6 26 3 2, { (v4 27 5) with fam := 9 }, v6 30 90 1],
    wds := [v4 28 4, wd6 29 2], includeWithdraw := true }

example : demo.M ≤ 65535 ∧ PosSizes demo ∧ FamCover demo := by decide +kernel
example : (pack demo).status = .ok ∧ logged demo = 1 := by decide +kernel
example : (pack demo).msgs.map (·.len) = [100, 49, 66, 67, 75] := by decide +kernel
/-- the IPv4 NLRIs are NOT repeated in the first MP message any more -/
example : ((pack demo).msgs.map (fun m => (m.wd4.map (·.id), m.ann4.map (·.id), (oitems m.reach).map (·.id),
    (oitems m.unreach).map (·.id)))) =
    [([], [1, 2, 3, 4, 5, 6, 7, 8, 9, 10, 11, 12], [], []), ([28], [13], [], []), ([], [], [24], []),
     ([], [], [25], []), ([], [], [26], [29])] := by decide +kernel
/-- the route of the family that is not negotiated (27) and the one that cannot fit (30) are in no message -/
example : ∀ m ∈ (pack demo).msgs, ∀ x ∈ m.annsOf, x.id ≠ 27 ∧ x.id ≠ 30 := by decide +kernel
example : ¬ fitsAnn demo (v6 30 90 1) ∧ fitsAnn demo (v6 25 3 1) ∧ fitsWd demo (wd6 29 2) := by decide +kernel
/-- `c09_no_room` is not vacuous: a request, attributes that fill the message, no output -/
example : (pack { demo with attrDef := 77 }).msgs = [] ∧ (pack { demo with attrDef := 77 }).status = .noRoom := by decide +kernel
/-- only MP withdraws: the attribute block without defaults is chosen -/
example : chosenAttr { demo with anns := [], wds := [wd6 29 2] } = 0 := by decide +kernel
/-- the extended-length switch is reached: 14 IPv6 /128 NLRIs with one next hop make a 259-byte
    MP_REACH payload (header 4), 13 make 242 (header 3) -/
example : (pack { demo with M := 4096, anns := (List.range 14).map (fun k => v6 k 17 1), wds := [] }).msgs.map (·.len)
    = [19 + 4 + 17 + (4 + (21 + 14 * 17))] := by decide +kernel
example : (pack { demo with M := 4096, anns := (List.range 13).map (fun k => v6 k 17 1), wds := [] }).msgs.map (·.len)
    = [19 + 4 + 17 + (3 + (21 + 13 * 17))] := by decide +kernel
/-- the former `struct.error` case on a 65535 session: the message that would have been 65536 bytes
    is not built; the /8 is sent in 65533 bytes -/
example : (pack { unfitInput with M := 65535, attrDef := 65508 }).status = .ok
    ∧ (pack { unfitInput with M := 65535, attrDef := 65508 }).msgs.map (·.len) = [65533] := by decide +kernel

/-! ## Non-vacuity of the byte level: a concrete realisation

An eBGP-like block ORIGIN IGP, empty AS_PATH, NEXT_HOP 1.2.3.4 (4 + 3 + 7 = 14 bytes); an IPv4 /24
(4 bytes), an IPv6 /64 with a 16-byte next hop (9 bytes), an IPv6 /32 withdraw (5 bytes). -/

def wkFlags : Wire.Flags := { opt := false, trans := true, part := false, ext := false }

def realBlk : List Wire.Attr :=
  [{ flags := wkFlags, val := .origin 0 }, { flags := wkFlags, val := .asPath [] },
   { flags := wkFlags, val := .nextHop 16909060 }]

def realIn : Input :=
  { M := 4096, attrDef := 14, attrNoDef := 0, negotiated := [1, 3], simple := [1, 2, 3, 4], famOrder := [3],
    anns := [{ id := 1, size := 4, fam := 1, v4 := true, nh := 1, nhLen := 4 },
             { id := 2, size := 9, fam := 3, v4 := false, nh := 2, nhLen := 16 }],
    wds := [{ id := 3, size := 5, fam := 3, v4 := false, nh := 0, nhLen := 0 }], includeWithdraw := true }

def realRho : Real :=
  { p := { asn4 := true, addpath := [], extnh := [], msgSize := 4096 },
    famOf := fun f => if f = 1 then (1, 1) else if f = 3 then (2, 1) else (0, 0),
    nl := fun x =>
      if x.id = 1 then { pathId := none, labels := [], rd := [], plen := 24, pfx := [10, 0, 0] }
      else if x.id = 2 then { pathId := none, labels := [], rd := [], plen := 64, pfx := [32, 1, 13, 184, 0, 0, 0, 1] }
      else { pathId := none, labels := [], rd := [], plen := 32, pfx := [32, 1, 13, 185] },
    nhb := fun _ => [32, 1, 13, 184, 0, 0, 0, 0, 0, 0, 0, 0, 0, 0, 0, 1],
    blk := realBlk }

theorem realRho_realises : Realises realRho realIn where
  msgSize := rfl
  small := by decide +kernel
  blkLen := by decide +kernel
  blkWF := by
    intro a ha
    simp only [realRho, realBlk, List.mem_cons, List.not_mem_nil, or_false] at ha
    rcases ha with rfl | rfl | rfl
    · exact ⟨by decide, by show (0 : Nat) ≤ 2; decide, by decide⟩
    · exact ⟨by decide, by simp [Wire.WFVal], by decide⟩
    · exact ⟨by decide, by show (16909060 : Nat) < 4294967296; decide, by decide⟩
  blkNodup := by decide +kernel
  blk14 := by decide +kernel
  blk15 := by decide +kernel
  va := by decide +kernel
  vw := by decide +kernel
  ma := by decide +kernel
  mw := by decide +kernel
  mand4 := by intro _; decide
  mandMp := by intro _; decide

/-- two messages: the IPv4 one, then MP_REACH + MP_UNREACH of IPv6 sharing one message -/
example : (pack realIn).msgs.map (·.len) = [41, 81] := by decide +kernel
/-- the bytes of the first one (after the 19-byte header), from the RFC reference encoder -/
example : (pack realIn).msgs.map (fun m => Wire.encodeUpdate realRho.p (realise realRho m)) =
    [[0, 0, 0, 14, 64, 1, 1, 0, 64, 2, 0, 64, 3, 4, 1, 2, 3, 4, 24, 10, 0, 0],
     [0, 0, 0, 58, 128, 15, 8, 0, 2, 1, 32, 32, 1, 13, 185, 64, 1, 1, 0, 64, 2, 0, 64, 3, 4, 1, 2, 3, 4,
      128, 14, 30, 0, 2, 1, 16, 32, 1, 13, 184, 0, 0, 0, 0, 0, 0, 0, 0, 0, 0, 0, 1, 0, 64, 32, 1, 13, 184, 0, 0, 0, 1]] := by
  decide +kernel
/-- `c09_parses_alone` and `msg_len_is_encoding_length` apply to it -/
example : ∀ m ∈ (pack realIn).msgs,
    Wire.decodeUpdate realRho.p (Wire.encodeUpdate realRho.p (realise realRho m)) = .ok (realise realRho m) ∧
    m.len = 19 + (Wire.encodeUpdate realRho.p (realise realRho m)).length :=
  fun m hm => ⟨c09_parses_alone realRho realIn realRho_realises m hm,
               msg_len_is_encoding_length realRho realIn realRho_realises m hm⟩
example : PosSizes realIn ∧ FamCover realIn := by decide +kernel

end Exa.Props.C09
