import ExaModel.Lemmas.TotalErr
import ExaModel.Lemmas.TotalSteps
import ExaModel.Lemmas.TotalValid
import ExaModel.Lemmas.TotalOpen
import ExaModel.Generated.NotifyCodes
/-!
# C03 — No peer input can crash or wedge the speaker

Statement (properties.jsonl): any byte string presented as the body of any BGP message type, in any
session state and under any negotiated parameters, is either decoded or refused with a BGP
NOTIFICATION carrying a defined error code; decoding never raises any other error, never loops or
recurses without bound, and finishes in time proportional to the message size. A message that is
valid per the RFCs, however unusual (for instance hundreds of unknown optional attributes), is not
refused.

What is a theorem here, and of what. The theorems are about the RFC reference UPDATE decoder M-Wire
(`Exa.Wire.decodeUpdate`, a total Lean function on ALL `List Nat`, no bound on length) and its counting
twins (`Model/Steps.lean`): (1) every input is answered `.ok` or `.error (c, s)` with `(c, s)` in the
NOTIFICATION table re-extracted from /repo (`decode_total`, `decode_error_defined`); (2) every walk
makes progress, never stops for lack of fuel, and the number of loop iterations — of each walk on its
own (`*_walk_steps`) and of the walks of a whole UPDATE together, the label stacks inside the NLRIs
apart (`update_work_linear`) — is bounded by the number of bytes: the model's notion of "time
proportional to the size"; (3) a well-formed
UPDATE is never refused, in particular one made of unknown optional attributes, in any number
(`valid_not_refused`, `hundreds_of_unknown_attributes`, `unknown_attributes_any_number`);
(4) the tables: every literal `Notify(code, subcode)` in /repo's source, and every error site of the
reference decoder, is in the defined table, which contains the RFC table (`raised_codes_defined`,
`error_sites_are_rfc`, `defined_table_spec`).

This is the PARTIAL form of the property for ExaBGP itself: its ~3 kLoC of Python decoders are not
modelled; that they terminate, raise nothing but `Notify`, stay within a linear call budget and
refuse no message the reference accepts is established by the correspondence runs of
`harness/props/C03.py` on the real `Message.unpack` / `Protocol.read_message` (every message type,
eight session shapes, valid / corrupted / random streams, all lazy parts forced). The missing part is
named: totality and linearity of the Python decoders are sampled, not proved.
-/
namespace Exa.Props.C03
open Exa Exa.Wire Exa.Generated.NotifyCodes

/-- **Translator obligation (error sites of /repo).** Every literal `Notify(code, subcode, …)` in
    ExaBGP's source — the error sites of its decoders and of the reactor, re-read by AST on every
    run — names a pair of the defined table. Editing a raise site to an undefined pair breaks this. -/
theorem raised_codes_defined : ∀ e ∈ raisedCodes, e ∈ definedCodes := by decide +kernel

/-- RFC 4271 §4.5 / §6 (codes 1–6 with their subcodes; subcode 0 = Unspecific), RFC 4486 (Cease 1–8),
    RFC 5492 (2/7), RFC 6608 (5/1–5/3), RFC 7313 (7/1). -/
def rfcCodes : List (Nat × Nat) :=
  [(1, 0), (1, 1), (1, 2), (1, 3),
   (2, 0), (2, 1), (2, 2), (2, 3), (2, 4), (2, 5), (2, 6), (2, 7),
   (3, 0), (3, 1), (3, 2), (3, 3), (3, 4), (3, 5), (3, 6), (3, 7), (3, 8), (3, 9), (3, 10), (3, 11),
   (4, 0), (5, 0), (5, 1), (5, 2), (5, 3),
   (6, 0), (6, 1), (6, 2), (6, 3), (6, 4), (6, 5), (6, 6), (6, 7), (6, 8),
   (7, 1)]

/-- **Translator obligation (the table).** The defined table of /repo contains every RFC pair, has no
    entry outside error codes 1–7, and no duplicate. -/
theorem defined_table_spec :
    (∀ e ∈ rfcCodes, e ∈ definedCodes) ∧ (∀ e ∈ definedCodes, 1 ≤ e.1 ∧ e.1 ≤ 7 ∧ e.2 < 256) ∧
    definedCodes.Nodup := by decide +kernel

/-- The ten error sites of the reference decoder are RFC pairs (so `decode_error_defined` does not
    lean on an entry only ExaBGP defines). -/
theorem error_sites_are_rfc : ∀ e ∈ errSites, e ∈ rfcCodes := by decide

/-- **Every error of the reference decoder carries a defined (code, subcode)**: for every parameter
    set and EVERY byte string, an error is a member of the table re-extracted from
    `Notification._str_subcode`. -/
theorem decode_error_defined (p : Params) (bs : Bytes) (c s : Nat)
    (h : decodeUpdate p bs = .error (c, s)) : (c, s) ∈ definedCodes :=
  defined_table_spec.1 _ (error_sites_are_rfc _ (decodeUpdate_err p bs (c, s) h))

/-- **Total**: every byte string under every parameter set is decoded, or refused with a defined
    code. (That the function returns at all is by construction: it is a total Lean function; what is
    stated is the shape of the answer.) -/
theorem decode_total (p : Params) (bs : Bytes) :
    (∃ u, decodeUpdate p bs = .ok u) ∨
    (∃ c s, decodeUpdate p bs = .error (c, s) ∧ (c, s) ∈ definedCodes) := by
  cases h : decodeUpdate p bs with
  | ok u => exact Or.inl ⟨u, rfl⟩
  | error e =>
    obtain ⟨c, s⟩ := e
    exact Or.inr ⟨c, s, rfl, decode_error_defined p bs c s h⟩

/-- **OPEN bodies** (M-OpenCodec, the model of `Open.unpack_message` / `Capabilities.unpack` that C07
    ties to the code): every byte string is decoded or refused with one of five pairs — Bad Message
    Length 1/2, OPEN Message Error 2/0, 2/1, 2/4, 2/5 — all in the defined table. -/
theorem open_decode_total (body : Bytes) :
    (∃ o, Exa.Open.decodeOpen body = .ok o) ∨
    (∃ e, Exa.Open.decodeOpen body = .error e ∧ (e.code, e.sub) ∈ definedCodes) := by
  cases h : Exa.Open.decodeOpen body with
  | ok o => exact Or.inl ⟨o, rfl⟩
  | error e =>
    have h1 := Exa.Open.decodeOpen_err body e h
    have h2 : ∀ x ∈ Exa.Open.openErrSites, x ∈ definedCodes := by decide
    exact Or.inr ⟨e, rfl, h2 _ h1⟩

/-- **The counters count the real walks**: the first component of every counting twin is the walk
    it instruments, for all fuels and inputs. -/
theorem steps_compute_the_walks (p : Params) (afi safi : Nat) (ap wd w4 : Bool) (f : Nat) (bs : Bytes) :
    (decAttrsSteps p f bs).1 = decAttrs p f bs ∧
    (decNlrisSteps afi safi ap wd f bs).1 = decNlris afi safi ap wd f bs ∧
    (decSegsSteps w4 f bs).1 = decSegs w4 f bs ∧
    (decAsnsSteps w4 f bs).1 = decAsns w4 f bs ∧
    (decStackSteps f bs).1 = decStack f bs :=
  ⟨decAttrsSteps_fst p f bs, decNlrisSteps_fst afi safi ap wd f bs, decSegsSteps_fst w4 f bs,
   decAsnsSteps_fst w4 f bs, decStackSteps_fst f bs⟩

/-- **Progress**: whatever a walk parses, it consumes at least the header of it — an attribute at
    least flags, type and one length octet; an NLRI at least its length octet. -/
theorem walks_make_progress (p : Params) (afi safi : Nat) (ap wd : Bool) (bs rest : Bytes) :
    (∀ a, decAttr p bs = .ok (a, rest) → rest.length + 3 ≤ bs.length) ∧
    (∀ n, decNlri afi safi ap wd bs = .ok (n, rest) → rest.length + 1 ≤ bs.length) :=
  ⟨fun a h => decAttr_progress p bs a rest h, fun n h => decNlri_progress afi safi ap wd bs n rest h⟩

/-- **Fuel is never what stops a walk**: the decoder runs its walks with fuel = number of bytes, and
    any fuel at least that large gives the same answer — so no error (and no `.ok`) of the model is an
    artefact of the fuel that makes the recursion structural. -/
theorem fuel_never_binds (p : Params) (afi safi : Nat) (ap wd w4 : Bool) (bs : Bytes) (f : Nat) (hf : bs.length ≤ f) :
    decAttrs p f bs = decAttrs p bs.length bs ∧
    decNlris afi safi ap wd f bs = decNlris afi safi ap wd bs.length bs ∧
    decSegs w4 f bs = decSegs w4 bs.length bs :=
  ⟨decAttrs_fuel p f bs.length bs hf (Nat.le_refl _), decNlris_fuel afi safi ap wd f bs.length bs hf (Nat.le_refl _),
   decSegs_fuel w4 f bs.length bs hf (Nat.le_refl _)⟩

/-- **Attribute walk: at most `len/3 + 1` iterations** (an attribute is at least 3 bytes; the `+ 1` is
    the iteration that finds the error), for every input, valid or not. -/
theorem attr_walk_steps (p : Params) (f : Nat) (bs : Bytes) : (decAttrsSteps p f bs).2 ≤ bs.length / 3 + 1 := by
  have := walkSteps_le (e0 := (3, 1)) 3 (by decide) (decAttr_progress p) f bs
  rw [decAttrsSteps_eq_walkSteps]; omega

/-- **NLRI walk: at most one iteration per byte** (the second bound follows from the first). -/
theorem nlri_walk_steps (afi safi : Nat) (ap wd : Bool) (f : Nat) (bs : Bytes) :
    (decNlrisSteps afi safi ap wd f bs).2 ≤ bs.length ∧ (decNlrisSteps afi safi ap wd f bs).2 ≤ bs.length + 1 :=
  ⟨decNlrisSteps_le afi safi ap wd f bs, Nat.le_succ_of_le (decNlrisSteps_le afi safi ap wd f bs)⟩

/-- **AS_PATH / AS4_PATH walk**: segment headers plus AS numbers looked at ≤ number of value bytes;
    the inner AS-number loop never exceeds the count octet. -/
theorem aspath_walk_steps (w4 : Bool) (f n : Nat) (bs : Bytes) :
    (decSegsSteps w4 f bs).2 ≤ bs.length ∧ (decAsnsSteps w4 n bs).2 ≤ n ∧ 2 * (decAsnsSteps w4 n bs).2 ≤ bs.length + 2 :=
  ⟨decSegsSteps_le w4 f bs, decAsnsSteps_le w4 n bs⟩

/-- **Label stack walk**: bounded by what the length octet allows and by a third of the bytes. -/
theorem label_walk_steps (n : Nat) (bs : Bytes) :
    (decStackSteps n bs).2 ≤ n ∧ 3 * (decStackSteps n bs).2 ≤ bs.length + 3 := by
  fun_induction decStackSteps n bs with
  | case1 => exact ⟨Nat.le_refl _, Nat.zero_le _⟩
  | case2 | case3 => exact ⟨Nat.le_add_left .., Nat.le_add_left ..⟩
  | case4 n bs c1 c2 ih => rw [List.length_drop] at ih; omega

/-- **Capability walk of an OPEN**: the counting twin computes `walkCaps`, and looks at no more than
    `len/2 + 1` capability TLVs (a TLV is at least code and length). -/
theorem cap_walk_steps (fuel : Nat) (data : Bytes) :
    (Exa.Open.walkCapsSteps fuel data).1 = Exa.Open.walkCaps fuel data ∧
    (Exa.Open.walkCapsSteps fuel data).2 ≤ data.length / 2 + 1 := by
  refine ⟨Exa.Open.walkCapsSteps_fst fuel data, ?_⟩
  have := Exa.Open.walkCapsSteps_le fuel data
  omega

/-- **The whole UPDATE: the loop iterations `updateWork` adds up ≤ number of bytes of the body** —
    the withdrawn-routes walk, the attribute walk, the walks inside every attribute value (AS_PATH
    segments and AS numbers, community lists, MP_REACH / MP_UNREACH NLRI) and the NLRI walk. The
    label-stack walk inside one NLRI is not in the sum (`valSteps` counts calls of `decNlri`); it is
    bounded on its own by `label_walk_steps`. This is the model's "time proportional to the message
    size", for every byte string. -/
theorem update_work_linear (p : Params) (bs : Bytes) : updateWork p bs ≤ bs.length := by
  fun_cases updateWork p bs
  · exact Nat.zero_le _
  · rename_i hc
    generalize rd16 (bs.drop (2 + rd16 bs)) = a at *
    generalize rd16 bs = w at *
    have h1 := decNlrisSteps_le 1 1 (p.ap 1 1) true w ((bs.drop 2).take w)
    have h2 := attrsWork_le p a ((bs.drop (4 + w)).take a)
    have h3 := decNlrisSteps_le 1 1 (p.ap 1 1) false (bs.drop (4 + w + a)).length (bs.drop (4 + w + a))
    have l1 : ((bs.drop 2).take w).length ≤ w := List.length_take_le ..
    have l2 : ((bs.drop (4 + w)).take a).length ≤ a := List.length_take_le ..
    have l3 : (bs.drop (4 + w + a)).length = bs.length - (4 + w + a) := List.length_drop
    omega

/-- **A well-formed UPDATE is never refused** (all well-formed `u`, no bound on the number of
    attributes, segments, routes): the reference decoder returns exactly `u` from its encoding
    (the statement of C02's `wire_left_inverse`). -/
theorem valid_not_refused (p : Params) (u : UpdateSem) (h : WFUpdate p u) :
    decodeUpdate p (encodeUpdate p u) = .ok u := decodeUpdate_encodeUpdate p u h

/-- **Hundreds of unknown optional attributes.** An UPDATE made of one zero-length unrecognised
    optional attribute per type code of ANY duplicate-free list of unrecognised codes (there are 240
    such codes) that fits the negotiated size is decoded, not refused. -/
theorem hundreds_of_unknown_attributes (p : Params) (cs : List Nat) (hnd : cs.Nodup)
    (hk : ∀ c ∈ cs, c ∉ knownCodes ∧ c < 256) (hsz : 4 + 3 * cs.length + 19 ≤ p.msgSize)
    (h16 : 3 * cs.length < 65536) :
    decodeUpdate p (encodeUpdate p (unkUpdate cs)) = .ok (unkUpdate cs) :=
  valid_not_refused p (unkUpdate cs) (wfUpdate_unk p cs hnd (fun c hc => (hk c hc).1) hsz h16)

/-- **Any number of them, syntactically** (the message of finding F7: n ≥ 1000 attributes forces
    repeated type codes, which RFC 4271 §6.3 calls malformed and RFC 7606 §3.g tells the receiver to
    survive): for EVERY n, the attribute walk over n zero-length unknown optional attributes returns all
    n of them after exactly n iterations — no depth, no fuel, nothing but the length limits it. -/
theorem unknown_attributes_any_number (p : Params) (cs : List Nat) (hk : ∀ c ∈ cs, c ∉ knownCodes) :
    decAttrs p (encAttrs p (cs.map unkAttr)).length (encAttrs p (cs.map unkAttr)) = .ok (cs.map unkAttr) ∧
    (decAttrsSteps p (encAttrs p (cs.map unkAttr)).length (encAttrs p (cs.map unkAttr))).2 = cs.length ∧
    (encAttrs p (cs.map unkAttr)).length = 3 * cs.length := by
  refine ⟨?_, ?_, encAttrs_unk_length p cs⟩
  · exact decAttrs_encAttrs p _ (wf_unkAttrs p cs hk) _ (Nat.le_refl _)
  · exact decAttrsSteps_unk p cs hk _ (by rw [encAttrs_unk_length]; exact Nat.le_refl _)

/-! ## Non-vacuity -/

def pEx : Params := { asn4 := false, addpath := [], extnh := [], msgSize := 4096 }

/-- the 240 type codes M-Wire does not recognise -/
def unknownCodes : List Nat := (List.range 256).filter (fun c => !knownCodes.contains c)

example : unknownCodes.length = 240 := unknown_codes_length
example : unknownCodes.Nodup := List.nodup_range.filter _
example : ∀ c ∈ unknownCodes, c ∉ knownCodes ∧ c < 256 := unknown_codes_spec
/-- the theorem applied: 240 unknown optional attributes on a 4096-byte session are accepted … -/
example : decodeUpdate pEx (encodeUpdate pEx (unkUpdate unknownCodes)) = .ok (unkUpdate unknownCodes) :=
  hundreds_of_unknown_attributes pEx unknownCodes (List.nodup_range.filter _) unknown_codes_spec
    (by rw [show unknownCodes.length = 240 from unknown_codes_length]; decide)
    (by rw [show unknownCodes.length = 240 from unknown_codes_length]; decide)
/-- … in a body of 724 bytes, with 240 iterations of the attribute walk -/
example : (encodeUpdate pEx (unkUpdate unknownCodes)).length = 724 := by
  rw [encodeUpdate_unk_length, show unknownCodes.length = 240 from unknown_codes_length]
/-- the shape of finding F7 — 1200 attributes with the same unknown code 99 — is walked in 1200
    iterations (then refused for the duplicate, 3/1, by RFC 4271's rule) -/
example : (decAttrsSteps pEx 3600 (encAttrs pEx ((List.replicate 1200 99).map unkAttr))).2 = 1200 := by
  obtain ⟨_, h2, h3⟩ := unknown_attributes_any_number pEx (List.replicate 1200 99)
    (by intro c hc; rw [List.mem_replicate] at hc; rw [hc.2]; decide)
  rw [h3, List.length_replicate] at h2
  exact h2
/-- errors are defined pairs on concrete malformed inputs: truncated header, overrun, bad ORIGIN,
    bad prefix length, bad segment -/
example : decodeUpdate pEx [0, 0, 0] = .error (1, 2) := by decide
example : decodeUpdate pEx [0, 0, 0, 4, 0x40, 1, 2, 0] = .error (3, 1) := by decide
example : decodeUpdate pEx [0, 0, 0, 4, 0x40, 1, 1, 9] = .error (3, 6) := by decide
example : decodeUpdate pEx [0, 0, 0, 0, 33, 1, 2, 3, 4, 5] = .error (3, 10) := by decide
example : decodeUpdate pEx [0, 0, 0, 5, 0x40, 2, 2, 9, 1] = .error (3, 11) := by decide
/-- the counters on a concrete message: 3 attributes, 2 NLRIs, one 3-AS segment (1 + 3 iterations) -/
example : (decAttrsSteps pEx 20 [0x40, 1, 1, 0, 0x40, 2, 8, 2, 3, 0, 1, 0, 2, 0, 3, 0x40, 3, 4, 10, 0, 0, 1]).2 = 3 := by decide
example : (decNlrisSteps 1 1 false false 8 [24, 10, 0, 0, 8, 11]).2 = 2 := by decide
example : (decSegsSteps false 8 [2, 3, 0, 1, 0, 2, 0, 3]).2 = 4 := by decide
example : updateWork pEx [0, 0, 0, 22, 0x40, 1, 1, 0, 0x40, 2, 8, 2, 3, 0, 1, 0, 2, 0, 3, 0x40, 3, 4, 10, 0, 0, 1, 24, 10, 0, 0, 8, 11] = 9 := by decide
/-- OPEN: a 9-byte body is Bad Message Length, version 3 is 2/1, an authentication parameter is 2/5;
    a body with one unknown capability is decoded; three capability TLVs = three iterations -/
example : Exa.Open.decodeOpen [4, 0xFD, 0xE9, 0, 180, 2, 2, 2, 2] = .error ⟨1, 2⟩ := by decide
example : Exa.Open.decodeOpen [3, 0xFD, 0xE9, 0, 180, 2, 2, 2, 2, 0] = .error ⟨2, 1⟩ := by decide
example : Exa.Open.decodeOpen [4, 0xFD, 0xE9, 0, 180, 2, 2, 2, 2, 2, 1, 0] = .error ⟨2, 5⟩ := by decide
example : (Exa.Open.decodeOpen [4, 0xFD, 0xE9, 0, 180, 2, 2, 2, 2, 5, 2, 3, 200, 1, 7]).toOption.map (·.caps) =
    some [.unknown 200 [7]] := by decide
example : (Exa.Open.walkCapsSteps 10 [2, 0, 200, 1, 7, 70, 0]).2 = 3 := by decide
/-- the table is the one of /repo and is not trivial -/
example : 30 ≤ definedCodes.length ∧ 10 ≤ raisedCodes.length ∧ errSites.length = 10 := by decide
example : (9, 9) ∉ definedCodes := by decide

end Exa.Props.C03
