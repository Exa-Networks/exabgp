import ExaModel.Lemmas.ReloadWorld
/-!
# C17 — Configuration reload applies the difference, or nothing at all

Statement (properties.jsonl): after a successful configuration reload every peer ends up holding
exactly the routes of the new configuration plus the still-valid API-announced routes: routes
removed from the configuration are withdrawn, new ones announced, and routes whose attributes or
next hop changed are re-announced with the new values, whether the session was up or down during
the reload.  A reload that fails for any reason leaves neighbors, routes and sessions exactly as
they were and the API keeps working.

Model: `Exa.Reload` (M-Reload) composed with `Exa.Rib` (M-Rib).  `reactorReload w c f` is
`Reactor.reload()` on configuration `c` with fault `f` (none = the file is valid), performed in the
stages the code performs it; `World.loopTop` is the `if self._neighbor:` block at the top of the
`_main` loop, `World.lost` is `_reset`, `World.establish` the prologue of `_main`, `World.drain`
what an established peer still sends.

What the peer must hold afterwards is `deltaView cv old new`, prefix by prefix: the last route
the new section lists for the prefix (with its attributes and next hop); nothing if the old
section listed the prefix and the new one does not; otherwise what the Adj-RIB-Out `cv` held —
i.e. exactly the API-announced routes whose prefix is not a configured one.  (`cv` is the
Adj-RIB-Out before the reload, which by C04 is what the peer holds once drained.)

How the delta is achieved (finding F3, kept visible by the proofs): the announcements come from
the insertion of the new section's routes into the live RIB by `attach_ribs()` — at the COMMIT
of the reload since /repo 1a8ae65, at parse time before — (`parsed_cacheView`); `replace_reload` only
contributes the withdrawals (`replaceReload_cacheView` needs, as its hypothesis, that the cache
already holds the new configuration).

Before /repo f9a9367 and 1a8ae65 the second half of the property was false (F17: no rollback on
the missing-file and parser-exception paths, parser left dirty; F28: parse-time insertion leaked
the routes of a file that then failed).  The model follows the code after these two commits, and
`reload_fail_atomic` holds for every fault kind.  The inputs on which F17 and F28 showed are run
below as `example`s (and are regression cases in corpus/C17).

Premises kept in the statements (`RoutesOK`): adj-rib-out is kept, no configured route is parked by
a `withdraw` watchdog, every configured route belongs to a family of its neighbor; and `FamOK`:
every route in the Adj-RIB-Out belongs to a family the RIB serves (as in C11).
-/
namespace Exa.Props.C17
open Exa Exa.Rib Exa.Reload

/-- The starting point for peer `a`: the peer runs the configured section `old`, no neighbor
    definition or teardown is pending. -/
structure Live (w : World) (a : Nat) (old : Nbr) (p : PeerSt) (s : Sess) : Prop where
  noPending : w.pending = []      -- `ParseNeighbor._attach` is empty: holds after every reload (`reload_pending`)
  nbr : AList.lookup a w.nbrs = some old
  peer : AList.lookup a w.peers = some p
  cur : p.cur.nbr = old
  noNext : p.next = none
  noPrev : p.cur.prev = none      -- the definition the peer runs has reached the RIB (no reload is waiting behind it)
  noTeardown : p.teardown = false
  rib : AList.lookup a w.ribs = some s

/-- **reload_delta, session up.**  Peer `a` is established and in any state the convergence
    invariant allows (`Good s t`: updates queued, a generator partially consumed, `t` = what the
    remote peer holds so far).  The new file keeps the session parameters of `a`.  After
    `Reactor.reload()` and the next main-loop iteration: the reload succeeded, the invariant still
    holds against the same `t` (so every C04 theorem applies from here), and once drained the
    remote peer holds `deltaView`. -/
theorem reload_delta_up (w : World) (c : Config) (a : Nat) (old n : Nbr) (p : PeerSt) (s : Sess) (t : Table)
    (hl : Live w a old p s) (hup : p.up = true) (g : Good s t)
    (hfam : s.rib.families = n.fams) (hok : FamOK s.rib)
    (hnodup : (c.nbrs.map Nbr.name).Nodup) (hn : n ∈ c.nbrs) (hname : n.name = a)
    (hsame : old.sameSession n = true) (hr : RoutesOK n) :
    let w1 := (reactorReload w c none).1.loopTop a
    (reactorReload w c none).2 = true ∧
    ∃ s1, AList.lookup a w1.ribs = some s1 ∧ Good s1 t ∧ (w1.drain a).2 = s1.drain.2 ∧
      ∀ m, AList.lookup m (applyEvs t (w1.drain a).2) = deltaView s.rib.cacheView old.plain n.plain m := by
  subst hname
  intro w1
  obtain ⟨hok1, hp', hs', _⟩ := reactorReload_at w c hl.noPending hnodup n hn hl.nbr hl.peer hl.rib
    (by rw [decidePeer_reconfigure_up (hl.cur ▸ hsame) hup, linkOf_settled hl.noNext hl.noPrev])
  obtain ⟨g2, htab⟩ := reload_up_core s t g n old.plain hr hfam hok [] (fun _ ho => nomatch ho)
  obtain ⟨hp1, hs1⟩ := loopTop_at hp' hs' hup hl.noTeardown rfl
  exact ⟨hok1, drained_at hp1 hs1 hup g2 htab⟩

/-- **reload_delta, session up, the reload landing in the middle of a `_main` iteration.**  The
    reload is synchronous and interrupts the peer's coroutine at whatever await it is suspended at —
    normally inside `read_message`, i.e. PAST the loop top: the rest of that iteration (`ops`: any
    `start`/`next` steps) already transmits the routes the parser inserted, the `replace_reload`
    comes with the next iteration.  Same conclusion; what was sent in between counts. -/
theorem reload_delta_up_midloop (w : World) (c : Config) (a : Nat) (old n : Nbr) (p : PeerSt) (s : Sess) (t : Table)
    (hl : Live w a old p s) (hup : p.up = true) (g : Good s t)
    (hfam : s.rib.families = n.fams) (hok : FamOK s.rib)
    (hnodup : (c.nbrs.map Nbr.name).Nodup) (hn : n ∈ c.nbrs) (hname : n.name = a)
    (hsame : old.sameSession n = true) (hr : RoutesOK n)
    (ops : List Op) (hx : ∀ op ∈ ops, isXmit op = true) :
    let wx := (reactorReload w c none).1.xmit a ops
    let w1 := wx.1.loopTop a
    ∀ m, AList.lookup m (applyEvs t (wx.2 ++ (w1.drain a).2)) = deltaView s.rib.cacheView old.plain n.plain m := by
  subst hname
  intro wx w1
  obtain ⟨_, hp', hs', _⟩ := reactorReload_at w c hl.noPending hnodup n hn hl.nbr hl.peer hl.rib
    (by rw [decidePeer_reconfigure_up (hl.cur ▸ hsame) hup, linkOf_settled hl.noNext hl.noPrev])
  obtain ⟨_, htab⟩ := reload_up_core s t g n old.plain hr hfam hok ops hx
  obtain ⟨hpx, hsx, hox⟩ := xmit_at hp' hs' hup ops
  obtain ⟨hp1, hs1⟩ := loopTop_at hpx hsx hup hl.noTeardown rfl
  intro m
  rw [drain_at hp1 hs1 hup, hox]
  exact htab m

/-- **reload_delta, session down.**  Peer `a` is not established (`Down`: any state reachable by a
    session loss followed by API activity).  `reconfigure` runs `replace_reload` at once; at the
    next establishment (`replace_restart([], current)`) the new session, drained, leaves an EMPTY
    peer table at `deltaView`, and the invariant holds for the new session. -/
theorem reload_delta_down (w : World) (c : Config) (a : Nat) (old n : Nbr) (p : PeerSt) (s : Sess)
    (hl : Live w a old p s) (hup : p.up = false) (d : Down s.rib) (hi : s.inflight = none) (hw : s.inclWd = false)
    (hfam : s.rib.families = n.fams) (hok : FamOK s.rib)
    (hnodup : (c.nbrs.map Nbr.name).Nodup) (hn : n ∈ c.nbrs) (hname : n.name = a)
    (hsame : old.sameSession n = true) (hr : RoutesOK n) :
    let w1 := (reactorReload w c none).1.establish a
    (reactorReload w c none).2 = true ∧
    ∃ s1, AList.lookup a w1.ribs = some s1 ∧ Good s1 [] ∧ (w1.drain a).2 = s1.drain.2 ∧
      ∀ m, AList.lookup m (applyEvs [] (w1.drain a).2) = deltaView s.rib.cacheView old.plain n.plain m := by
  subst hname
  intro w1
  obtain ⟨hok1, hp', hs', _⟩ := reactorReload_at w c hl.noPending hnodup n hn hl.nbr hl.peer hl.rib
    (by rw [decidePeer_reconfigure_down (hl.cur ▸ hsame) hup, linkOf_settled hl.noNext hl.noPrev])
  obtain ⟨g3, htab⟩ := reload_down_core s d hi hw n old.plain hr hfam hok
  obtain ⟨hp1, hs1⟩ := establish_at hp' hs' hup hl.noTeardown
  exact ⟨hok1, drained_at hp1 hs1 rfl g3 htab⟩

/-- **reload_delta, session parameters changed** (`Neighbor.__eq__` fails: `reestablish`), session
    up or down alike: the session is reset (NOTIFICATION 6/3 and `_reset`, or the connection was
    not up anyway), the new definition takes over, and the next session, drained, leaves an EMPTY
    peer table at `deltaView` — where the API routes that survive are those of the families the new
    section still has (`famView`). -/
theorem reload_delta_restart (w : World) (c : Config) (a : Nat) (old n : Nbr) (p : PeerSt) (s : Sess)
    (hl : Live w a old p s) (hcw : CacheWF s.rib)
    (hnodup : (c.nbrs.map Nbr.name).Nodup) (hn : n ∈ c.nbrs) (hname : n.name = a)
    (hsame : old.sameSession n = false) (hr : RoutesOK n) :
    let w1 := ((reactorReload w c none).1.lost a).establish a
    (reactorReload w c none).2 = true ∧
    ∃ s1, AList.lookup a w1.ribs = some s1 ∧ Good s1 [] ∧ (w1.drain a).2 = s1.drain.2 ∧
      ∀ m, AList.lookup m (applyEvs [] (w1.drain a).2) = deltaView (famView n.fams s.rib) old.plain n.plain m := by
  subst hname
  intro w1
  obtain ⟨hok1, hp', hs', _⟩ := reactorReload_at w c hl.noPending hnodup n hn hl.nbr hl.peer hl.rib
    (by rw [decidePeer_reestablish (hl.cur ▸ hsame), linkOf_settled hl.noNext hl.noPrev])
  obtain ⟨a1, a2, a3, a4, a7⟩ := attach_props s n hr.adj hcw.1
  have hcw0 : CacheWF (attach (some s) n).rib := ⟨a3, by rw [a1]; exact hcw.2⟩
  obtain ⟨g3, htab⟩ := restart_core (attach (some s) n) hcw0 a4 n old.plain hr a2
  obtain ⟨hp1, hs1⟩ := lost_at hp' hs'
  obtain ⟨hp2, hs2⟩ := establish_at hp1 hs1 rfl rfl
  exact ⟨hok1, drained_at hp2 hs2 rfl g3 fun m =>
    (htab m).trans (deltaView_congr _ _ _ _ _ fun _ _ => a7 m)⟩

/-- **reload_delta, new neighbor**: a section whose name had neither peer nor RIB nor previous
    definition gets a peer; its first session, drained, carries exactly the configured routes. -/
theorem reload_delta_new (w : World) (c : Config) (a : Nat) (n : Nbr) (hpend : w.pending = [])
    (h1 : AList.lookup a w.nbrs = none) (h2 : AList.lookup a w.peers = none) (h3 : AList.lookup a w.ribs = none)
    (hnodup : (c.nbrs.map Nbr.name).Nodup) (hn : n ∈ c.nbrs) (hname : n.name = a) (hr : RoutesOK n) :
    let w1 := (reactorReload w c none).1.establish a
    (reactorReload w c none).2 = true ∧
    ∃ s1, AList.lookup a w1.ribs = some s1 ∧ Good s1 [] ∧ (w1.drain a).2 = s1.drain.2 ∧
      ∀ m, AList.lookup m (applyEvs [] (w1.drain a).2) = deltaView (fun _ => none) [] n.plain m := by
  subst hname
  intro w1
  obtain ⟨hok1, hp', hs', _⟩ := reactorReload_at w c hpend hnodup n hn h1 h2 h3 rfl
  obtain ⟨g3, htab⟩ := new_peer_core n hr
  obtain ⟨hp1, hs1⟩ := establish_at hp' hs' rfl rfl
  exact ⟨hok1, drained_at hp1 hs1 rfl g3 htab⟩

/-- **What `deltaView` says, spelled out** (the three clauses of the property): a prefix the new
    section lists is held with the attributes and next hop of the LAST route listed for it
    (changed routes at their new values, new routes announced); a prefix only the old section
    listed is not held (withdrawn); any other prefix is held exactly as the Adj-RIB-Out had it
    (API routes survive, untouched). -/
theorem deltaView_spec (cv : Nat → Option (Nat × Nat)) (prev new : List Route) (m : Nat) :
    (∀ r, lastOf new m = some r → deltaView cv prev new m = some (r.attr, r.nh)) ∧
    (hasNlri new m = false → hasNlri prev m = true → deltaView cv prev new m = none) ∧
    (hasNlri new m = false → hasNlri prev m = false → deltaView cv prev new m = cv m) := by
  refine ⟨fun r h => by simp [deltaView, h], fun h1 h2 => ?_, fun h1 h2 => ?_⟩
  · simp [deltaView, (lastOf_none_iff new m).2 h1, h2]
  · simp [deltaView, (lastOf_none_iff new m).2 h1, h2]

/-! ## A reload that fails -/

/-- **reload_fail_atomic (full statement).**  Whatever the fault — the first statement refused, a
    syntax error after any number `k` of completed neighbor sections, a parser raising anything
    after any `k`, the file missing or empty — `Reactor.reload()` reports failure and
    `configuration.neighbors`, `configuration.processes`, every RIB (cache, queues, watchdog books,
    transmission state) and every peer are exactly as they were: no hypothesis on the world or
    on the file for these.  The parser's list of sections waiting for their RIB (`_attach`) is
    emptied (`reload_fail_empties_pending`), so if it was empty before (`reload_pending`) the whole
    world is unchanged. -/
theorem reload_fail_atomic (w : World) (c : Config) (f : Fault) :
    (reactorReload w c (some f)).2 = false ∧
    (reactorReload w c (some f)).1.nbrs = w.nbrs ∧
    (reactorReload w c (some f)).1.procs = w.procs ∧
    (reactorReload w c (some f)).1.ribs = w.ribs ∧
    (reactorReload w c (some f)).1.peers = w.peers ∧
    (w.pending = [] → (reactorReload w c (some f)).1 = w) := by
  -- a missing file is refused before `_clear()`; on the other paths `_abort_reload` puts back what
  -- `_clear()` saved and empties `_attach`, which leaves `{ w with pending := [] }`
  have same : w.pending = [] → { w with pending := [] } = w := fun h => by cases w; cases h; rfl
  cases f with
  | missingFile => exact ⟨rfl, rfl, rfl, rfl, rfl, fun _ => rfl⟩
  | _ => exact ⟨rfl, rfl, rfl, rfl, rfl, same⟩

/-- **The abort empties `_attach`** — whatever was parsed of the refused file (`k` complete
    sections), nothing of it waits to be bound to a RIB by a later commit.  (This is where a
    failed reload could still reach a LATER successful one: `attach_ribs()` binds everything the
    list holds, see the `example` with a stale list below.) -/
theorem reload_fail_empties_pending (w : World) (c : Config) (k : Nat) :
    (reactorReload w c (some .firstLine)).1.pending = [] ∧
    (reactorReload w c (some (.syntax k))).1.pending = [] ∧
    (reactorReload w c (some (.exception k))).1.pending = [] :=
  ⟨reload_pending w c _ (by intro h; cases h), reload_pending w c _ (by intro h; cases h),
   reload_pending w c _ (by intro h; cases h)⟩

/-- `_attach` is empty after every reload (successful or not) of a world where it was empty: it
    is an invariant of every history of reloads from the start (`World.init.pending = []`; no
    peer or API operation touches it). -/
theorem reload_keeps_pending_empty (w : World) (c : Config) (f : Option Fault) (h : w.pending = []) :
    (reactorReload w c f).1.pending = [] := reload_pending w c f (fun _ => h)

/-- **Nothing is sent because of a failed reload**: what any established peer transmits
    afterwards (`xmit`: any transmission steps; `drain`) is what it would have transmitted. -/
theorem reload_fail_sends_nothing (w : World) (c : Config) (f : Fault) (hp : w.pending = []) (a : Nat) (ops : List Op) :
    ((reactorReload w c (some f)).1.xmit a ops).2 = (w.xmit a ops).2 ∧
    (((reactorReload w c (some f)).1.loopTop a).drain a).2 = ((w.loopTop a).drain a).2 ∧
    (((reactorReload w c (some f)).1.establish a).drain a).2 = ((w.establish a).drain a).2 := by
  rw [(reload_fail_atomic w c f).2.2.2.2.2 hp]
  exact ⟨rfl, rfl, rfl⟩

/-- **The API keeps working**: an API command after the failed reload does what it would have
    done. -/
theorem reload_fail_api_works (w : World) (c : Config) (f : Fault) (hp : w.pending = []) (a : Nat) (op : Op) :
    (reactorReload w c (some f)).1.api a op = w.api a op := by
  rw [(reload_fail_atomic w c f).2.2.2.2.2 hp]

/-- **The next reload is not affected** — and so, by induction, neither is any later one: after a
    failed reload, reloading any file (the original, a corrected one) gives exactly what it would
    have given without the failed attempt, so every `reload_delta_*` theorem applies to it; and a
    valid file is accepted. -/
theorem reload_after_failure_ok (w : World) (c c' : Config) (f : Fault) (hp : w.pending = []) :
    reactorReload (reactorReload w c (some f)).1 c' none = reactorReload w c' none ∧
    (reactorReload (reactorReload w c (some f)).1 c' none).2 = true := by
  rw [(reload_fail_atomic w c f).2.2.2.2.2 hp]
  refine ⟨rfl, ?_⟩
  simp [reactorReload, cfgReload]

/-- Any number of failed reloads in a row leave the world as it was. -/
theorem reload_failures_atomic (w : World) (hp : w.pending = []) (attempts : List (Config × Fault)) :
    attempts.foldl (fun w a => (reactorReload w a.1 (some a.2)).1) w = w := by
  induction attempts with
  | nil => rfl
  | cons a t ih =>
    simp only [List.foldl_cons]
    rw [(reload_fail_atomic w a.1 a.2).2.2.2.2.2 hp]
    exact ih

/-- **A removed neighbor leaves nothing behind**: after a successful reload of a file that does
    not list name `a` any more, there is no peer, no configured section and NO RIB under that
    name (`Peer.remove()` → `stop()` → `rib.uncache()`): neither the configured routes nor the
    API routes of the removed neighbor are kept anywhere. -/
theorem reload_removed_leaves_nothing (w : World) (c : Config) (hp : w.pending = []) (a : Nat)
    (hnodup : (c.nbrs.map Nbr.name).Nodup) (ha : a ∉ c.nbrs.map Nbr.name)
    (hpeer : (AList.lookup a w.peers).isSome = true) :
    (reactorReload w c none).2 = true ∧
    AList.lookup a (reactorReload w c none).1.peers = none ∧
    AList.lookup a (reactorReload w c none).1.ribs = none ∧
    AList.lookup a (reactorReload w c none).1.nbrs = none := by
  have hnl : AList.lookup a (committed w c).nbrs = none :=
    AList.lookup_eq_none_iff.2 (toDict_keys c.nbrs hnodup ▸ ha)
  have hin : a ∈ AList.keys (committed w c).peers := by
    obtain ⟨p, hl⟩ := Option.isSome_iff_exists.1 hpeer
    exact List.mem_map.2 ⟨(a, p), AList.mem_of_lookup hl, rfl⟩
  -- no section of that name: the decisions leave what `removePeers` left
  obtain ⟨h1, h2⟩ := decideFold_other w.nbrs c.nbrs (removePeers (committed w c)) ha
  rw [removePeers_peers, hnl] at h1
  rw [removePeers_ribs, if_pos ⟨hin, hnl⟩] at h2
  rw [reactorReload_none w c hp hnodup]
  exact ⟨rfl, h1, h2, (congrArg (AList.lookup a) (decideFold_fields _ _ _).1).trans hnl⟩

/-- **…so a later neighbor of that name starts from an empty Adj-RIB-Out**: a neighbor removed by
    one successful reload (`c1`) and added again by a later one (`c2`, section `n`, any routes)
    ends up, after its first session has drained, with exactly the routes of `n` — nothing of
    what the earlier incarnation had configured or had been sent through the API. -/
theorem reload_readd_starts_empty (w : World) (c1 c2 : Config) (hp : w.pending = []) (a : Nat) (n : Nbr)
    (hnodup1 : (c1.nbrs.map Nbr.name).Nodup) (ha : a ∉ c1.nbrs.map Nbr.name)
    (hpeer : (AList.lookup a w.peers).isSome = true)
    (hnodup2 : (c2.nbrs.map Nbr.name).Nodup) (hn : n ∈ c2.nbrs) (hname : n.name = a) (hr : RoutesOK n) :
    let w1 := (reactorReload w c1 none).1
    let w2 := (reactorReload w1 c2 none).1.establish a
    ∀ m, AList.lookup m (applyEvs [] (w2.drain a).2) = deltaView (fun _ => none) [] n.plain m := by
  intro w1 w2
  obtain ⟨_, h2, h3, h1⟩ := reload_removed_leaves_nothing w c1 hp a hnodup1 ha hpeer
  have hp1 : w1.pending = [] := reload_keeps_pending_empty w c1 none hp
  obtain ⟨_, s1, _, _, _, htab⟩ := reload_delta_new w1 c2 a n hp1 h1 h2 h3 hnodup2 hn hname hr
  exact htab

def rt (n f a h : Nat) : Route := { nlri := n, fam := f, attr := a, nh := h }
def cr (n f a h : Nat) : CRoute := { r := rt n f a h }

def nbOld1 : Nbr := { name := 1, key := 1, fams := [1, 2], adjOut := true, routes := [cr 1 1 1 1, cr 2 1 1 1] }
def nbNew1 : Nbr := { name := 1, key := 1, fams := [1, 2], adjOut := true, routes := [cr 1 1 3 1, cr 4 1 1 1] }
def nb2 : Nbr := { name := 2, key := 1, fams := [1, 2], adjOut := true, routes := [cr 3 1 1 1] }

/-- two neighbors; the first announces 1/attr 1 and 2/attr 1 -/
def cfgOld : Config := { procs := [1], nbrs := [nbOld1, nb2] }

/-- the first neighbor changes prefix 1 to attr 3, drops prefix 2, adds prefix 4 -/
def cfgNew : Config := { procs := [1], nbrs := [nbNew1, nb2] }

/-- loaded, session of neighbor 1 established and drained, an API route 5 announced and sent -/
def wLive : World :=
  let w0 := (reactorReload World.init cfgOld none).1
  let w1 := ((w0.establish 1).drain 1).1
  ((w1.api 1 (.add (rt 5 1 2 2) false)).drain 1).1

/-- the same with the session of neighbor 1 never established -/
def wDown : World :=
  let w0 := (reactorReload World.init cfgOld none).1
  w0.api 1 (.add (rt 5 1 2 2) false)

/-- The F28 input (new file with a syntax error in its SECOND section, session up): the
    RIBs are untouched and the established session sends nothing. -/
example :
    (reactorReload wLive cfgNew (some (.syntax 1))).2 = false ∧
    (reactorReload wLive cfgNew (some (.syntax 1))).1 = wLive ∧
    (((reactorReload wLive cfgNew (some (.syntax 1))).1.loopTop 1).drain 1).2 = [] := by decide +kernel

/-- …session down: the next session announces the OLD configuration (prefix 1 at attributes 1). -/
example :
    (reactorReload wDown cfgNew (some (.syntax 1))).1 = wDown ∧
    AList.lookup 1 (applyEvs [] (((reactorReload wDown cfgNew (some (.syntax 1))).1.establish 1).drain 1).2)
      = some (1, 1) := by decide +kernel

/-- The F17 inputs (file vanished; a parser raising in the second section):
    `configuration.neighbors` and `configuration.processes` are kept. -/
example :
    (reactorReload wLive cfgNew (some .missingFile)).1.nbrs = wLive.nbrs ∧
    (reactorReload wLive cfgNew (some .missingFile)).1.procs = [1] ∧
    (reactorReload wLive cfgNew (some (.exception 1))).1.nbrs = wLive.nbrs ∧
    wLive.nbrs ≠ [] := by decide +kernel

/-- …and an API announcement after it reaches the RIB. -/
example :
    ((reactorReload wLive cfgNew (some .missingFile)).1.api 1 (.add (rt 6 2 1 1) false)).ribs ≠ wLive.ribs := by
  decide +kernel

/-- The model can express a stale `_attach` (what a parser that forgot to empty it would leave):
    with the first section of the refused file still in the list, reloading the UNCHANGED
    original file binds it and the peer is sent the refused file's routes (prefix 1 at attributes 3
    before it goes back to 1, and prefix 4, which no accepted file ever listed, for good) — the situation
    `reload_fail_empties_pending` excludes. -/
example :
    (((reactorReload { wLive with pending := [nbNew1] } cfgOld none).1.loopTop 1).drain 1).2
      = [Ev.ann (rt 1 1 3 1), Ev.ann (rt 1 1 1 1), Ev.ann (rt 4 1 1 1)] ∧
    (((reactorReload wLive cfgOld none).1.loopTop 1).drain 1).2 = [] := by decide +kernel

/-- Neighbor 1 (configured 1, 2; API route 5) removed, then added again with other routes: its
    RIB is gone after the removal, and the new incarnation's first session carries the new
    section only. -/
example :
    AList.lookup 1 (reactorReload wLive { procs := [1], nbrs := [nb2] } none).1.ribs = none ∧
    (((reactorReload (reactorReload wLive { procs := [1], nbrs := [nb2] } none).1 cfgNew none).1.establish 1).drain 1).2
      = [Ev.ann (rt 1 1 3 1), Ev.ann (rt 4 1 1 1)] := by decide +kernel

/-- After the syntax error the corrected file loads and the peer gets the delta (a parser left
    dirty by the failed reload, F17, refused it). -/
example :
    (reactorReload (reactorReload wLive cfgNew (some (.syntax 1))).1 cfgNew none).2 = true ∧
    (((reactorReload (reactorReload wLive cfgNew (some (.syntax 1))).1 cfgNew none).1.loopTop 1).drain 1).2
      = [Ev.wd 2 1, Ev.ann (rt 1 1 3 1), Ev.ann (rt 4 1 1 1)] := by decide +kernel

/-! ### non-vacuity: the hypotheses of the theorems are satisfiable on these worlds -/

example : (cfgNew.nbrs.map Nbr.name).Nodup := by decide
example : RoutesOK nbNew1 := ⟨by decide, by decide, by decide⟩
example : nbNew1 ∈ cfgNew.nbrs ∧ nbOld1.sameSession nbNew1 = true := by decide
/-- `wLive`: peer 1 is up, settled, and the reload of `cfgNew` reconfigures it … -/
example : (AList.lookup 1 wLive.peers).map (fun p => (p.cur.nbr, p.up, p.next, p.teardown))
      = some (nbOld1, true, none, false) ∧
    (AList.lookup 1 wLive.ribs).map (fun s => (s.rib.families, s.rib.cacheOn, s.inflight)) = some ([1, 2], true, none) ∧
    AList.lookup 1 wLive.nbrs = some nbOld1 := by
  decide +kernel
/-- … and the result is the delta: prefix 1 at its new attributes, prefix 2 withdrawn, prefix 4
    announced, the API route 5 kept. -/
example : (((reactorReload wLive cfgNew none).1.loopTop 1).drain 1).2
    = [Ev.wd 2 1, Ev.ann (rt 1 1 3 1), Ev.ann (rt 4 1 1 1)] := by decide +kernel
example : deltaView (fun m => if m = 5 then some (2, 2) else if m = 1 ∨ m = 2 then some (1, 1) else none)
    nbOld1.plain nbNew1.plain 1 = some (3, 1) := by decide
example : deltaView (fun m => if m = 5 then some (2, 2) else if m = 1 ∨ m = 2 then some (1, 1) else none)
    nbOld1.plain nbNew1.plain 2 = none := by decide
example : deltaView (fun m => if m = 5 then some (2, 2) else if m = 1 ∨ m = 2 then some (1, 1) else none)
    nbOld1.plain nbNew1.plain 5 = some (2, 2) := by decide
/-- session down: what the next session carries -/
example : AList.lookup 5 (applyEvs [] (((reactorReload wDown cfgNew none).1.establish 1).drain 1).2) = some (2, 2) ∧
    AList.lookup 2 (applyEvs [] (((reactorReload wDown cfgNew none).1.establish 1).drain 1).2) = none ∧
    AList.lookup 1 (applyEvs [] (((reactorReload wDown cfgNew none).1.establish 1).drain 1).2) = some (3, 1) := by
  decide +kernel
/-- reloading the SAME file successfully puts nothing on the wire -/
example : (((reactorReload wLive cfgOld none).1.loopTop 1).drain 1).2 = [] := by decide +kernel
/-- F3 on its own: `replace_reload([A/x],[A/y])` without the insertion by `attach_ribs()` announces nothing. -/
example : (((Sess.init true [1]).step (.add (rt 1 1 1 1) false)).1.drain.1.step
    (.reload [rt 1 1 1 1] [rt 1 1 2 1])).1.drain.2 = [] := by decide

/-- **Two reloads, the second finding the session down** (F106 / F109), on sessions: whatever state the RIB was in
    (`s0`: queues, a generator in flight, API routes in the cache), after reload 1 (`n1`, parsed and queued; the
    session is then reset for the re-establishment), reload 2 (`n2`, same families; `reconfigure` with the link
    `old ++ n1.routes` that `decidePeer` hands it, see `reload_keeps_unapplied_link`) and the next establishment, the
    new session, drained, gives an empty peer table exactly: the routes of `n2`; nothing of what `old` or `n1`
    configured and `n2` does not; and every other prefix as the cache had it before the two reloads (API routes). -/
theorem reload_twice_second_while_down (s0 : Sess) (hcw : CacheWF s0.rib) (hok0 : FamOK s0.rib) (n1 n2 : Nbr) (old : List Route)
    (h1 : RoutesOK n1) (h2 : RoutesOK n2) (hf1 : s0.rib.families = n1.fams) (hf2 : n1.fams = n2.fams) :
    let s1 := ((s0.run (insertOps n1)).1.step .lost).1
    let s2 : Sess := { (parseSess (some s1) n2) with rib := (parseSess (some s1) n2).rib.replaceReload (old ++ n1.plain) n2.plain }
    let s3 := (s2.step (.established [] n2.plain)).1
    Good s3 [] ∧ ∀ m, AList.lookup m (applyEvs [] s3.drain.2) = deltaView s0.rib.cacheView (old ++ n1.plain) n2.plain m :=
  reload_chain_down_core s0 hcw hok0 n1 n2 old h1 h2 hf1 hf2

/-- Why the link must be `old ++ n1.routes` (before the F106 repair /repo passed `n1.routes` alone): a route of `old`
    that `n1` removed is still in the cache; `deltaView` against `n1.routes` keeps it, against `old ++ n1.routes` drops it. -/
example :
    let r1 : Route := { nlri := 1, attr := 1, nh := 1, fam := 1 }
    let r2 : Route := { nlri := 2, attr := 1, nh := 1, fam := 1 }
    deltaView (fun m => if m = 1 ∨ m = 2 then some (1, 1) else none) [r1] [r1] 2 = some (1, 1) ∧
    deltaView (fun m => if m = 1 ∨ m = 2 then some (1, 1) else none) ([r1, r2] ++ [r1]) [r1] 2 = none := by decide

/-! ### a reload which finds a definition that never reached the RIB (finding F106) -/

/-- What the definition a peer holds last (`_neighbor` when one is pending, `neighbor` otherwise) has not
    yet applied to the RIB. -/
def unapplied (p : PeerSt) : Option (List Route) := (p.next.getD p.cur).prev

/-- **The decision, stated outright.**  When the definition the peer holds never reached the RIB
    (`unapplied p = some x`: a re-establishment is pending for it, or it waits for the loop top), a reload keeps
    `x` as what the RIB may hold, followed by the routes of the definition being replaced (`cfgPrev`: the parser has
    queued them). With `y = x ++ cfgPrev`:
    * same session parameters, session down: `replace_reload(y, new routes)` runs now and the link is consumed;
    * same session parameters, session up: the new definition waits for the loop top with the link `y`;
    * other session parameters: the new definition waits for the re-establishment with the link `y`. -/
theorem reload_keeps_unapplied_link (cfgPrev : Option (List Route)) (n : Nbr) (p : PeerSt) (s : Sess) (x : List Route)
    (hx : unapplied p = some x) :
    (p.cur.nbr.sameSession n = true → p.up = false →
      decidePeer cfgPrev n (some p) (some s) =
        ({ p with cur := { nbr := n, prev := none }, next := none },
         some { s with rib := s.rib.replaceReload (x ++ cfgPrev.getD []) n.plain })) ∧
    (p.cur.nbr.sameSession n = true → p.up = true →
      (decidePeer cfgPrev n (some p) (some s)).1.next = some { nbr := n, prev := some (x ++ cfgPrev.getD []) }) ∧
    (p.cur.nbr.sameSession n = false →
      (decidePeer cfgPrev n (some p) (some s)).1.next = some { nbr := n, prev := some (x ++ cfgPrev.getD []) } ∧
      (decidePeer cfgPrev n (some p) (some s)).1.teardown = true) := by
  have hl := linkOf_of_some hx cfgPrev
  refine ⟨fun h1 h2 => ?_, fun h1 h2 => ?_, fun h1 => ?_⟩
  · rw [decidePeer_reconfigure_down h1 h2, hl]; rfl
  · rw [decidePeer_reconfigure_up h1 h2, hl]
  · rw [decidePeer_reestablish h1, hl]; exact ⟨rfl, rfl⟩

/-- ... and when nothing is unapplied the configuration's previous definition is the link. -/
theorem reload_link_is_previous (cfgPrev : Option (List Route)) (n : Nbr) (p : PeerSt) (s : Sess)
    (hx : unapplied p = none) (h1 : p.cur.nbr.sameSession n = true) (h2 : p.up = false) :
    decidePeer cfgPrev n (some p) (some s) =
      ({ p with cur := { nbr := n, prev := none }, next := none },
       some { s with rib := s.rib.replaceReload (cfgPrev.getD []) n.plain }) := by
  rw [decidePeer_reconfigure_down h1 h2, linkOf_of_none hx]; rfl

-- the peer of the F106 history (N0 = routes 1, 2; reload 1, with another hold-time and route 2 removed, was pending
-- when the session ended): what a second reload finds unapplied is N0's routes
example :
    let r1 : Route := { nlri := 1, attr := 1, nh := 1, fam := 1 }
    let r2 : Route := { nlri := 2, attr := 1, nh := 1, fam := 1 }
    let n1 : Nbr := { name := 1, key := 2, fams := [1], adjOut := true, routes := [{ r := r1 }] }
    let p : PeerSt := { cur := { nbr := n1, prev := some [r1, r2] }, next := none, up := false, teardown := false }
    unapplied p = some [r1, r2] := by decide

end Exa.Props.C17
