import ExaModel.Lemmas.HealthInv
import ExaModel.Lemmas.HealthSpec
import ExaModel.Generated.HealthTable
import ExaModel.Lemmas.HealthPy
/-!
# C20 — Healthcheck rise/fall hysteresis

Statement (properties.jsonl): for any sequence of check results and disable-file states, the
healthcheck helper switches to the "up" announcement only after `rise` consecutive successes and to
the "down" announcement or withdrawal only after `fall` consecutive failures, never changes what it
announces on a single contrary result when rise and fall exceed one, and withdraws its routes on
exit.  Every line it writes is a syntactically valid ExaBGP API command carrying the configured
metric, communities, AS path and next hop for that state.

Model: `Exa.Health` (M-Health), our reading of `healthcheck.loop` (`one`, `trigger`, `exabgp`, the
`while True` loop).  `run c hist` is the program after the iterations `hist` (one `Inp` per
iteration: what `os.path.exists(disable)` and `check()` returned); `(run c hist).ann` is the last
target among UP/DOWN/DISABLED handed to `exabgp()`, i.e. what the daemon was last told
(`c20_written_is_announced` ties it to the lines actually written).  A *success* is an iteration
that is not disabled and whose check passed (`Inp.good`), a *failure* one that is not disabled and
whose check failed (`Inp.bad`).  Everything is for ALL configurations (any `rise`/`fall` in ℤ,
debounce on or off, withdraw-on-down on or off, any ips/neighbors/attributes) and ALL histories.

What is a theorem and what is not: the automaton half of the statement and the *content* of every
line (closed form `specCmd`) are theorems below.  "Syntactically valid ExaBGP API command" is a
statement about the daemon's grammar, which is not modelled here: it is decided on every run by
giving each line the real helper writes to the real daemon-side `API.process` (harness, C20.py).

Tie to the source at proof level: `Generated/PyHealth.lean` is `trigger` and `one` of `healthcheck.loop`
translated statement by statement on every run (`harness/pylite.py`, DESIGN 10.6c); `c20_py_trigger` and
`c20_py_one` prove that the translated functions compute exactly the model's `trigger` and `fsm`/`one`/
`handed` for every configuration, loop state and input — so the automaton theorems below are about the
code as it is on this run, and an edit of the state machine breaks these obligations directly.
-/
namespace Exa.Props.C20
open Exa Exa.Health

/-! ## The tables of the source are the ones the model was written against -/

/-- The `States` enum, the targets for which `exabgp()` writes, the states with the fast sleep and
    the argparse defaults regenerated from /repo are those of the model. -/
theorem c20_tables :
    Generated.HealthTable.states = St.all.map St.name ∧
    St.all.map (fun t => (t.writes, t.fastSleep)) =
      St.all.map (fun t =>
        (Generated.HealthTable.exabgpHandled.contains t.name && !Generated.HealthTable.exabgpSilent.contains t.name,
         Generated.HealthTable.fastSleepStates.contains t.name)) ∧
    (({} : Cfg).rise, ({} : Cfg).fall, ({} : Cfg).upMetric, ({} : Cfg).downMetric,
      ({} : Cfg).disabledMetric, ({} : Cfg).increase, ({} : Cfg).localPref) =
    (Generated.HealthTable.defaultRise, Generated.HealthTable.defaultFall,
      Generated.HealthTable.defaultUpMetric, Generated.HealthTable.defaultDownMetric,
      Generated.HealthTable.defaultDisabledMetric, Generated.HealthTable.defaultIncrease,
      Generated.HealthTable.defaultLocalPreference) := by decide +kernel

/-- **The model is the code** (1/2): `trigger`, translated from /repo on this run, is the model's
    `trigger` (states numbered in the order of `class States`, `c20_py_states`). -/
theorem c20_py_trigger (c : Cfg) (t : St) :
    Generated.PyHealth.Health.trigger t.code c.rise c.fall = (trigger c t).code :=
  py_trigger_eq_model c t

theorem c20_py_states : Generated.PyHealth.stateNames = St.all.map St.name := rfl

/-- **The model is the code** (2/2): `one(checks, state)`, translated from /repo on this run, returns
    the model's `(checks, state)` and hands to `exabgp` exactly the model's `handed` — or raises
    `ValueError` exactly where the model flags the unhandled state (unreachable:
    `c20_unhandled_unreachable`). -/
theorem c20_py_one (c : Cfg) (l : Loop) (i : Inp) (e0 : Int) :
    Generated.PyHealth.Health.one ⟨e0⟩ l.checks l.st.code c.rise c.fall c.debounce c.hasDisable i.file i.ok =
      if (fsm c l i).2.2 then .raise (-1) (-1)
      else .ret ((one c l i).checks, (one c l i).st.code)
        ⟨match handed c l i with | some t => t.code | none => e0⟩ := by
  rw [py_one_eq_model]
  unfold pyOfFsm handed one
  by_cases hd : (!c.debounce || (fsm c l i).1.st != l.st) = true <;>
    simp only [hd, Bool.false_eq_true, reduceIte]

/-- `St.all` is every state (so the table theorem covers the whole enum). -/
theorem c20_states_complete (t : St) : t ∈ St.all := by cases t <;> decide

/-! ## The unhandled branch is unreachable -/

/-- `one` raises `ValueError('Unhandled state')` for EXIT and END; the model returns the loop
    variables unchanged there.  That branch is never taken: after any history the loop state is
    one of the six handled states and `fsm` does not flag the next iteration. -/
theorem c20_unhandled_unreachable (c : Cfg) (hist : List Inp) (i : Inp) :
    (run c hist).loop.st ≠ .exit ∧ (run c hist).loop.st ≠ .end_ ∧
    (fsm c (run c hist).loop i).2.2 = false := by
  have h := (inv_run c hist).loop.handled
  exact ⟨h.1, h.2, fsm_handled c _ i h⟩

/-- **Up only after `rise` consecutive successes.**  If before an iteration the daemon was not told
    UP and after it it is, then the history ends with `max rise 1` consecutive successes (that
    iteration included). -/
theorem c20_up_needs_rise (c : Cfg) (pre : List Inp) (i : Inp)
    (hbefore : (run c pre).ann ≠ some .up) (hafter : (run c (pre ++ [i])).ann = some .up) :
    ∃ before window, pre ++ [i] = before ++ window ∧ (window.length : Int) = max c.rise 1 ∧
      ∀ x ∈ window, x.good c = true :=
  top_needs_streak true c pre i hbefore hafter

/-- **Down (announcement with the down metric, or withdrawal under `--withdraw-on-down`) only after
    `fall` consecutive failures.** -/
theorem c20_down_needs_fall (c : Cfg) (pre : List Inp) (i : Inp)
    (hbefore : (run c pre).ann ≠ some .down) (hafter : (run c (pre ++ [i])).ann = some .down) :
    ∃ before window, pre ++ [i] = before ++ window ∧ (window.length : Int) = max c.fall 1 ∧
      ∀ x ∈ window, x.bad c = true :=
  top_needs_streak false c pre i hbefore hafter

/-- The only other change of announcement, to DISABLED, happens only at an iteration that sees the
    disable file — never because of a check result. -/
theorem c20_disabled_needs_file (c : Cfg) (pre : List Inp) (i : Inp)
    (hbefore : (run c pre).ann ≠ some .disabled) (hafter : (run c (pre ++ [i])).ann = some .disabled) :
    i.disabled c = true := by
  rw [run_snoc] at hafter
  have hinv := inv_run c pre
  exact enter_disabled hinv.loop (ann_enter hinv hbefore hafter).2

/-- What the daemon was told is always one of UP, DOWN, DISABLED (or nothing yet), so the three
    theorems above cover every change of announcement. -/
theorem c20_ann_targets (c : Cfg) (hist : List Inp) (a : St) (h : (run c hist).ann = some a) :
    a = .up ∨ a = .down ∨ a = .disabled :=
  (St.isAnnounce_iff a).1 (ann_isAnnounce c hist a h)

/-- **A single contrary result changes nothing when rise and fall exceed one.**  An iteration `i`
    (not disabled) whose result differs from the previous iteration's — a failure right after a
    success, a success right after a failure, or the first result after the disable file went
    away — writes no line at all and leaves what the daemon was told unchanged. -/
theorem c20_single_contrary_no_change (c : Cfg) (hr : 1 < c.rise) (hf : 1 < c.fall)
    (pre : List Inp) (p i : Inp) (hi : i.disabled c = false)
    (hsingle : p.disabled c = true ∨ (p.good c = true ∧ i.bad c = true) ∨ (p.bad c = true ∧ i.good c = true)) :
    (run c (pre ++ [p, i])).ann = (run c (pre ++ [p])).ann ∧
    stepLines c (run c (pre ++ [p])).loop i = [] := by
  have hsplit : pre ++ [p, i] = (pre ++ [p]) ++ [i] := by simp
  rw [hsplit, run_snoc c (pre ++ [p]) i]
  have h0 := (inv_run c pre).loop
  have hq : (one c (run c (pre ++ [p])).loop i).st.writes = false := by
    rw [run_snoc c pre p, Run.step_loop]
    rcases hsingle with hd | ⟨hg, hb⟩ | ⟨hb, hg⟩
    · rw [one_leave_disabled (one_disabled hd) hi]; rfl
    · rw [contrary_starts (d := false) hf h0 hg hb]; rfl
    · rw [contrary_starts (d := true) hr h0 hb hg]; rfl
  have := quiet_step c (run c (pre ++ [p])) i hq
  exact ⟨this.2, this.1⟩

/-- The same for the very first result of the program: nothing is announced on one result. -/
theorem c20_first_result_quiet (c : Cfg) (hr : 1 < c.rise) (hf : 1 < c.fall) (i : Inp)
    (hi : i.disabled c = false) :
    (run c [i]).ann = none ∧ stepLines c {} i = [] := by
  have hq : (one c ({} : Run).loop i).st.writes = false := by
    have hit := Inp.hit_ok hi
    cases hok : i.ok <;> rw [hok] at hit
    · rw [hit_after_opposite (d := false) hf (.inl rfl) hit]; rfl
    · rw [hit_after_opposite (d := true) hr (.inl rfl) hit]; rfl
  have := quiet_step c {} i hq
  exact ⟨this.2, this.1⟩

/-- **`ann` is what is written.**  An iteration writes nothing, or exactly the lines of one target
    among UP/DOWN/DISABLED, and then that target is what `ann` says. -/
theorem c20_written_is_announced (c : Cfg) (pre : List Inp) (i : Inp) :
    stepLines c (run c pre).loop i = [] ∨
    ∃ t, (t = .up ∨ t = .down ∨ t = .disabled) ∧ (run c (pre ++ [i])).ann = some t ∧
      stepLines c (run c pre).loop i = exabgpLines c t := by
  rcases written_is_announced (i := i) (inv_run c pre) with h | ⟨t, h1, h2, h3⟩
  · exact Or.inl h
  · exact Or.inr ⟨t, (St.isAnnounce_iff t).1 h1, by rw [run_snoc]; exact h2, h3⟩

/-- **Routes are withdrawn on exit.**  When the program is ended (KeyboardInterrupt in the sleep,
    or SIGTERM) after any iterations, the last thing it writes is one `withdraw` per configured
    ip, in order, for the configured neighbors, whatever was announced before.  (`--interval 0`
    is the documented one-shot mode that ends with END and leaves the routes: excluded.) -/
theorem c20_exit_withdraws (c : Cfg) (hz : c.intervalZero = false) (inputs : List Inp) :
    mainLoop c {} inputs = linesFrom c {} inputs ++ exabgpLines c .exit ∧
    exabgpLines c .exit = c.ips.map (fun ip => " ".intercalate
      ([selector c, "withdraw", "route", ip, "next-hop", c.nextHop.getD "self"]
        ++ optInt "path-information" (pathIdOf c))) := by
  refine ⟨mainLoop_eq c hz {} inputs, ?_⟩
  rw [exabgpLines_spec c .exit rfl]
  exact List.ext_getElem? fun k => by simp [Cmd.render, specCmd_exit_tokens]

/-- **Every line carries the configured fields for its state.**  The `k`-th line written for a
    target is the rendering of `specCmd`: selector of the configured neighbors, announce/withdraw,
    the `k`-th ip, the configured next hop, metric of that state + `k`·increase, the state's
    community and AS path, local preference, extended/large communities, path id. -/
theorem c20_command_fields (c : Cfg) (t : St) (ht : t.writes = true) (k : Nat) :
    (exabgpLines c t)[k]? = (c.ips[k]?).map (fun ip => (specCmd c t k ip).render) := by
  rw [exabgpLines_spec c t ht, List.getElem?_mapIdx]

/-- A writing target gets exactly one line per configured ip. -/
theorem c20_one_line_per_ip (c : Cfg) (t : St) (ht : t.writes = true) :
    (exabgpLines c t).length = c.ips.length := by
  rw [exabgpLines_spec c t ht, List.length_mapIdx]

/-- **Every line the program ever writes** — during any iterations, with or without
    `--interval 0`, and on exit — is the rendering of the configured command of one of the writing
    targets (UP, DOWN, DISABLED, EXIT) for one of the configured ips. -/
theorem c20_every_line_is_configured (c : Cfg) (inputs : List Inp) (ln : String)
    (h : ln ∈ mainLoop c {} inputs) :
    ∃ t k ip, t.writes = true ∧ c.ips[k]? = some ip ∧ ln = (specCmd c t k ip).render := by
  obtain ⟨t, ht⟩ := mem_mainLoop h
  obtain ⟨hw, k, ip, h1, h2⟩ := mem_exabgpLines ht
  exact ⟨t, k, ip, hw, h1, h2⟩

/-! ## Non-vacuity: the hypotheses are met, and the switches do happen, on concrete histories -/

def s : Inp := { file := false, ok := true }    -- success
def f : Inp := { file := false, ok := false }   -- failure
def d : Inp := { file := true, ok := false }    -- disable file present

def demo : Cfg :=
  { rise := 3, fall := 2, hasDisable := true, ips := ["192.0.2.1/32", "2001:db8::1/128"],
    nextHop := some "10.9.9.9", community := some "65000:1 65000:2", disabledCommunity := some "65000:666",
    upAsPath := some "65000 65001", asPath := some "65009", neighbors := ["10.0.0.1"], pathId := some 7,
    localPref := 200 }

-- c20_up_needs_rise: not up after two successes, up after the third
example : (run demo [s, s]).ann ≠ some .up ∧ (run demo ([s, s] ++ [s])).ann = some .up := by decide +kernel
-- a failure in between restarts the count
example : (run demo [s, s, f, s, s]).ann = none := by decide +kernel
-- c20_down_needs_fall: up, one failure keeps up, the second switches to down
example : (run demo [s, s, s, f]).ann = some .up ∧ (run demo ([s, s, s, f] ++ [f])).ann = some .down := by decide +kernel
-- c20_disabled_needs_file, and coming back needs the full rise again
example : (run demo [s, s, s]).ann ≠ some .disabled ∧ (run demo ([s, s, s] ++ [d])).ann = some .disabled := by decide +kernel
example : (run demo [s, s, s, d, s, s, s]).ann = some .disabled ∧ (run demo [s, s, s, d, s, s, s, s]).ann = some .up := by decide +kernel
-- c20_single_contrary_no_change: hypotheses satisfiable (rise, fall > 1; a failure after a success)
example : 1 < demo.rise ∧ 1 < demo.fall ∧ f.disabled demo = false ∧ s.good demo = true ∧ f.bad demo = true := by decide +kernel
example : (run demo ([s, s] ++ [s, f])).ann = (run demo ([s, s] ++ [s])).ann ∧
    stepLines demo (run demo ([s, s] ++ [s])).loop f = [] := by decide +kernel
-- with rise = fall = 1 a single result does switch (the hypothesis matters)
example : (run { demo with rise := 1, fall := 1 } [s, f]).ann = some .down := by decide +kernel
-- the lines
example : exabgpLines demo .up =
    ["peer 10.0.0.1 announce route 192.0.2.1/32 next-hop 10.9.9.9 med 100 local-preference 200 community [ 65000:1 65000:2 ] as-path [ 65000 65001 ] path-information 7",
     "peer 10.0.0.1 announce route 2001:db8::1/128 next-hop 10.9.9.9 med 101 local-preference 200 community [ 65000:1 65000:2 ] as-path [ 65000 65001 ] path-information 7"] := by decide +kernel
example : exabgpLines demo .down =
    ["peer 10.0.0.1 announce route 192.0.2.1/32 next-hop 10.9.9.9 med 1000 local-preference 200 community [ 65000:666 ] as-path [ 65009 ] path-information 7",
     "peer 10.0.0.1 announce route 2001:db8::1/128 next-hop 10.9.9.9 med 1001 local-preference 200 community [ 65000:666 ] as-path [ 65009 ] path-information 7"] := by decide +kernel
example : exabgpLines { demo with withdrawOnDown := true } .down =
    ["peer 10.0.0.1 withdraw route 192.0.2.1/32 next-hop 10.9.9.9 path-information 7",
     "peer 10.0.0.1 withdraw route 2001:db8::1/128 next-hop 10.9.9.9 path-information 7"] := by decide +kernel
example : mainLoop demo {} [s, s, s] = exabgpLines demo .up ++
    ["peer 10.0.0.1 withdraw route 192.0.2.1/32 next-hop 10.9.9.9 path-information 7",
     "peer 10.0.0.1 withdraw route 2001:db8::1/128 next-hop 10.9.9.9 path-information 7"] := by decide +kernel
example : (specCmd demo .up 1 "2001:db8::1/128").med = some 101 ∧
    (specCmd demo .down 0 "x").community = some "65000:666" ∧
    (specCmd demo .disabled 0 "x").asPath = some "65009" := by decide +kernel
/-- F14 repaired: two neighbors give the bracket selector the daemon parses. -/
example : selector { demo with neighbors := ["10.0.0.1", "10.0.0.2"] } = "peer [ 10.0.0.1 , 10.0.0.2 ]" := by decide +kernel

end Exa.Props.C20
