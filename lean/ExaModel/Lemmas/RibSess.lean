import ExaModel.Lemmas.RibInv
/-! Session-level steps (generator start / next), runs and drain; End-of-RIB (`ESess`, the
    `_send_eor_messages` step on top of M-Rib). -/
namespace Exa.Rib
open Exa

/-- Operations that can happen while a session is up. -/
def Op.isUp : Op → Bool
  | .lost => false
  | .established _ _ => false
  | _ => true

/-- Operations the API / configuration can perform on the RIB while the session is down. -/
def Op.isRibOnly : Op → Bool
  | .add _ _ | .del _ _ | .resend _ _ | .withdrawAll _ | .wdogAdd _ _ _
  | .wdogAnnounce _ | .wdogWithdraw _ | .reload _ _ => true
  | _ => false

theorem Op.isUp_of_isRibOnly {op : Op} (h : op.isRibOnly = true) : op.isUp = true := by
  cases op with
  | lost | established _ _ => cases h
  | _ => rfl

theorem forall_mem_concat {α : Type} {p : α → Prop} {l : List α} {a : α} (h : ∀ x ∈ l, p x) (ha : p a) :
    ∀ x ∈ l ++ [a], p x := fun x hx =>
  (List.mem_append.1 hx).elim (h x) fun hx => List.mem_singleton.1 hx ▸ ha

theorem run_cons (s : Sess) (op : Op) (ops : List Op) :
    s.run (op :: ops) = (((s.step op).1.run ops).1, (s.step op).2 ++ ((s.step op).1.run ops).2) := rfl

theorem run_append (s : Sess) (a b : List Op) :
    s.run (a ++ b) = ((s.run a).1.run b |>.1, (s.run a).2 ++ ((s.run a).1.run b).2) := by
  induction a generalizing s with
  | nil => rfl
  | cons op rest ih => simp [Sess.run, ih, List.append_assoc]

theorem run_append_fst (s : Sess) (a b : List Op) : (s.run (a ++ b)).1 = ((s.run a).1.run b).1 := by
  rw [run_append]

theorem run_preserves {Q : Sess → Prop} {ops : List Op} (h : ∀ s, ∀ op ∈ ops, Q s → Q (s.step op).1)
    {s : Sess} (hs : Q s) : Q (s.run ops).1 := by
  induction ops generalizing s with
  | nil => exact hs
  | cons op rest ih =>
    exact ih (fun s o ho => h s o (List.mem_cons_of_mem _ ho)) (h s op List.mem_cons_self hs)

theorem ribOnly_step (s : Sess) (op : Op) (h : op.isRibOnly = true) :
    (s.step op).2 = [] ∧ (s.step op).1.inflight = s.inflight ∧ (s.step op).1.inclWd = s.inclWd := by
  cases op with
  | start | next | lost | established _ _ => cases h
  | _ => exact ⟨rfl, rfl, rfl⟩

theorem ribOnly_run (s : Sess) (ops : List Op) (h : ∀ op ∈ ops, op.isRibOnly = true) :
    (s.run ops).2 = [] ∧ (s.run ops).1.inflight = s.inflight ∧ (s.run ops).1.inclWd = s.inclWd := by
  induction ops generalizing s with
  | nil => exact ⟨rfl, rfl, rfl⟩
  | cons op rest ih =>
    obtain ⟨h1, h2, h3⟩ := ribOnly_step s op (h op List.mem_cons_self)
    obtain ⟨i1, i2, i3⟩ := ih (s.step op).1 fun o ho => h o (List.mem_cons_of_mem _ ho)
    exact ⟨by simp [Sess.run, h1, i1], i2.trans h2, i3.trans h3⟩

theorem RibClosed.step {P : Rib → Prop} (h : RibClosed P) (s : Sess) (op : Op) (hop : op.isRibOnly = true)
    (hs : P s.rib) : P (s.step op).1.rib := by
  cases op with
  | add r f => exact h.add _ r f hs
  | del n f => exact h.del _ n f hs
  | resend e f => exact h.resend _ e f hs
  | withdrawAll fs => exact h.withdrawAll fs _ hs
  | wdogAdd r n w => exact h.wdogAdd r n w _ hs
  | wdogAnnounce n => exact h.wdogAnnounce n _ hs
  | wdogWithdraw n => exact h.wdogWithdraw n _ hs
  | reload p n => exact h.replaceReload p n _ hs
  | start | next | lost | established _ _ => cases hop

theorem RibClosed.run {P : Rib → Prop} (h : RibClosed P) (s : Sess) (ops : List Op)
    (hops : ∀ op ∈ ops, op.isRibOnly = true) (hs : P s.rib) : P (s.run ops).1.rib :=
  run_preserves (Q := fun s => P s.rib) (fun s op ho => h.step s op (hops op ho)) hs

theorem start_cases (s : Sess) :
    (s.step .start = (s, []) ∧ (s.inflight = none → s.rib.pending = false)) ∨
    (s.inflight = none ∧
      s.step .start = (⟨s.rib.flushed, some (s.rib.snapshotEvents.filter (keepEv s.inclWd)), s.inclWd⟩, [])) := by
  obtain ⟨rib, infl, incl⟩ := s
  cases infl with
  | some x => exact .inl ⟨rfl, fun h => nomatch h⟩
  | none =>
    cases hp : rib.pending with
    | true => exact .inr ⟨rfl, by simp only [Sess.step, hp, if_true]⟩
    | false => exact .inl ⟨by simp [Sess.step, hp], fun _ => rfl⟩

theorem start_out (s : Sess) : (s.step .start).2 = [] := by
  rcases start_cases s with ⟨h, _⟩ | ⟨_, h⟩ <;> rw [h]

theorem start_cache (s : Sess) : (s.step .start).1.rib.cache = s.rib.cache := by
  rcases start_cases s with ⟨h, _⟩ | ⟨_, h⟩ <;> rw [h] <;> rfl

theorem start_not_pending (s : Sess) (h : s.inflight = none) : (s.step .start).1.rib.pending = false := by
  rcases start_cases s with ⟨e, hp⟩ | ⟨_, e⟩ <;> rw [e]
  · exact hp h
  · rfl

theorem next_rib (s : Sess) : (s.step .next).1.rib = s.rib := by
  obtain ⟨rib, infl, incl⟩ := s
  rcases infl with _ | _ | _ <;> rfl

theorem nexts_rib (s : Sess) (k : Nat) : (s.run (List.replicate k Op.next)).1.rib = s.rib :=
  run_preserves (Q := fun s' => s'.rib = s.rib)
    (fun s' op ho h => by rw [List.eq_of_mem_replicate ho, next_rib]; exact h) rfl

theorem finish_rib (s : Sess) : s.finish.1.rib = s.rib := by
  obtain ⟨rib, infl, incl⟩ := s
  cases infl <;> rfl

theorem finish_inflight (s : Sess) : s.finish.1.inflight = none := by
  obtain ⟨rib, infl, incl⟩ := s
  cases infl <;> rfl

theorem drain_eq (s : Sess) :
    s.drain = ((s.finish.1.step .start).1.finish.1, s.finish.2 ++ (s.finish.1.step .start).1.finish.2) := rfl

theorem drain_cacheView (s : Sess) (n : Nat) : s.drain.1.rib.cacheView n = s.rib.cacheView n := by
  rw [Rib.cacheView, drain_eq, finish_rib, start_cache, finish_rib]; rfl

theorem drain_idle (s : Sess) : s.drain.1.inflight = none ∧ s.drain.1.rib.pending = false := by
  rw [drain_eq]
  exact ⟨finish_inflight _, by rw [finish_rib]; exact start_not_pending _ (finish_inflight s)⟩

theorem idle_step {s : Sess} (hi : s.inflight = none) (hp : s.rib.pending = false) {op : Op}
    (hop : op = .start ∨ op = .next) : s.step op = (s, []) := by
  rcases hop with h | h <;> subst h <;> simp [Sess.step, hi, hp]

theorem idle_run {s : Sess} (hi : s.inflight = none) (hp : s.rib.pending = false) {ops : List Op}
    (hops : ∀ op ∈ ops, op = .start ∨ op = .next) : s.run ops = (s, []) := by
  induction ops with
  | nil => rfl
  | cons op ops ih =>
    rw [run_cons, idle_step hi hp (hops op List.mem_cons_self)]
    show ((s.run ops).1, [] ++ (s.run ops).2) = _
    rw [ih fun o ho => hops o (List.mem_cons_of_mem _ ho)]; rfl

theorem idle_drain {s : Sess} (hi : s.inflight = none) (hp : s.rib.pending = false) : s.drain = (s, []) := by
  have hf : s.finish = (s, []) := by unfold Sess.finish; rw [hi]
  rw [drain_eq, hf, idle_step hi hp (.inl rfl), hf]; rfl

theorem good_start (s : Sess) (t : Table) (g : Good s t) : Good (s.step .start).1 t := by
  rcases start_cases s with ⟨e, _⟩ | ⟨hi, e⟩ <;> rw [e]
  · exact g
  · refine ⟨wfmap_nil, staleOK_nil, g.wfCache, g.cacheOn, fun n => ?_, fun _ h => (nomatch h), fun _ hr => (nomatch hr)⟩
    have := g.inv n
    simp only [nextIncl, hi, Option.isSome_none, Bool.or_false, Option.getD_none, effect_nil] at this
    simp only [snapEff_flushed, Option.getD_some]
    rw [snap_effect _ _ _ _ g.wfAnn g.staleOK]
    exact this

theorem good_finish (s : Sess) (t : Table) (g : Good s t) :
    Good s.finish.1 (applyEvs t s.finish.2) := by
  obtain ⟨rib, infl, incl⟩ := s
  cases infl with
  | none => exact g
  | some evs =>
    refine .of_base g.base (fun n => ?_) (fun h => nomatch h)
    have := g.inv n
    simp only [nextIncl, Option.isSome_some, Bool.or_true, Option.getD_some] at this
    simpa only [Sess.finish, nextIncl, Bool.true_or, Option.getD_none, effect_nil, lookup_applyEvs] using this

theorem good_next (s : Sess) (t : Table) (g : Good s t) :
    Good (s.step .next).1 (applyEvs t (s.step .next).2) := by
  obtain ⟨rib, infl, incl⟩ := s
  rcases infl with _ | _ | ⟨e, rest⟩
  · exact g
  · exact good_finish ⟨rib, some [], incl⟩ t g
  · show Good ⟨rib, some rest, incl⟩ (applyEv t e)
    refine .of_base g.base (fun n => ?_) (fun _ h => nomatch h)
    have := g.inv n
    simp only [nextIncl, Option.isSome_some, Bool.or_true, Option.getD_some, effect_cons] at this ⊢
    rw [← lookup_applyEv] at this; exact this

theorem good_step (s : Sess) (t : Table) (op : Op) (hop : op.isUp = true) (g : Good s t) :
    Good (s.step op).1 (applyEvs t (s.step op).2) := by
  by_cases hr : op.isRibOnly = true
  · obtain ⟨h1, h2, h3⟩ := ribOnly_step s op hr
    have := (good_closed s.inflight s.inclWd t).step s op hr g
    rw [← h2, ← h3] at this
    rw [h1]; exact this
  · cases op with
    | start => rw [start_out]; exact good_start s t g
    | next => exact good_next s t g
    | lost | established _ _ => cases hop
    | _ => exact absurd rfl hr

theorem good_run (s : Sess) (t : Table) (ops : List Op) (hops : ∀ op ∈ ops, op.isUp = true) (g : Good s t) :
    Good (s.run ops).1 (applyEvs t (s.run ops).2) := by
  induction ops generalizing s t with
  | nil => exact g
  | cons op rest ih =>
    have g1 := good_step s t op (hops op List.mem_cons_self) g
    have g2 := ih (s.step op).1 _ (fun o ho => hops o (List.mem_cons_of_mem _ ho)) g1
    rwa [← applyEvs_append] at g2

theorem good_ribOnly_run {s : Sess} {t : Table} (g : Good s t) {ops : List Op}
    (hops : ∀ op ∈ ops, op.isRibOnly = true) : Good (s.run ops).1 t := by
  have := good_run s t ops (fun op ho => Op.isUp_of_isRibOnly (hops op ho)) g
  rwa [(ribOnly_run s ops hops).1] at this

theorem Good.drain {s : Sess} {t : Table} (g : Good s t) : Good s.drain.1 (applyEvs t s.drain.2) := by
  rw [drain_eq, applyEvs_append]
  exact good_finish _ _ (good_start _ _ (good_finish s t g))

theorem Good.idle {s : Sess} {t : Table} (g : Good s t) (hi : s.inflight = none)
    (hp : s.rib.pending = false) (n : Nat) : AList.lookup n t = s.rib.cacheView n := by
  have := g.inv n
  rwa [hi, snapEff_not_pending _ _ _ _ hp] at this

theorem Good.drained {s : Sess} {t : Table} (g : Good s t) (n : Nat) :
    AList.lookup n (applyEvs t s.drain.2) = s.rib.cacheView n :=
  (g.drain.idle (drain_idle s).1 (drain_idle s).2 n).trans (drain_cacheView s n)

/-- Whatever happens in a session, once it has drained the peer holds the reported Adj-RIB-Out. -/
theorem Good.run_drained {s : Sess} {t : Table} (g : Good s t) {ops : List Op}
    (hops : ∀ op ∈ ops, op.isUp = true) (n : Nat) :
    AList.lookup n (applyEvs t ((s.run ops).2 ++ (s.run ops).1.drain.2)) = (s.run ops).1.rib.cacheView n := by
  rw [applyEvs_append]; exact (good_run s t ops hops g).drained n

theorem Good.converges {s : Sess} {t : Table} (g : Good s t) {ops : List Op}
    (hops : ∀ op ∈ ops, op.isUp = true) (n : Nat) :
    AList.lookup n (applyEvs t ((s.run ops).2 ++ (s.run ops).1.drain.2)) = (s.run ops).1.drain.1.rib.cacheView n :=
  (g.run_drained hops n).trans (drain_cacheView _ n).symm

theorem good_init (fams : List Nat) : Good (Sess.init true fams) [] :=
  ⟨wfmap_nil, staleOK_nil, wfmap_nil, rfl, fun _ => rfl, fun _ _ _ => rfl, fun _ hr => (nomatch hr)⟩

def EOp.isUp : EOp → Bool
  | .op o => o.isUp
  | .eor => true

def isEorEv : Ev → Bool
  | .eor _ => true
  | _ => false

theorem snapshot_no_eor (rib : Rib) : ∀ e ∈ rib.snapshotEvents, isEorEv e = false := by
  intro e he
  simp only [Rib.snapshotEvents, annSection, List.mem_append, List.mem_map, List.mem_flatMap,
    List.mem_singleton] at he
  rcases he with (((⟨_, _, rfl⟩ | ⟨_, _, rfl⟩) | ⟨_, _, rfl⟩) | ⟨_, _, rfl⟩) | ⟨_, _, ⟨_, _, rfl⟩ | rfl⟩ <;> rfl

/-- nothing in flight is an End-of-RIB marker: generators carry routes and refresh markers only -/
def NoEorInflight (s : Sess) : Prop := ∀ evs, s.inflight = some evs → ∀ e ∈ evs, isEorEv e = false

theorem noEor_step (s : Sess) (op : Op) (h : NoEorInflight s) :
    NoEorInflight (s.step op).1 ∧ ∀ e ∈ (s.step op).2, isEorEv e = false := by
  have nil : ∀ e ∈ ([] : List Ev), isEorEv e = false := fun _ he => nomatch he
  by_cases hr : op.isRibOnly = true
  · obtain ⟨h1, h2, _⟩ := ribOnly_step s op hr
    rw [h1]; exact ⟨fun evs he => h evs (h2 ▸ he), nil⟩
  cases op with
  | lost => exact ⟨fun _ he => (nomatch he), nil⟩
  | established p n => exact ⟨h, nil⟩
  | start =>
    rcases start_cases s with ⟨e, _⟩ | ⟨_, e⟩ <;> rw [e]
    · exact ⟨h, nil⟩
    · exact ⟨fun evs he x hx => by cases he; exact snapshot_no_eor _ x (List.mem_filter.1 hx).1, nil⟩
  | next =>
    obtain ⟨rib, infl, incl⟩ := s
    rcases infl with _ | _ | ⟨e, rest⟩
    · exact ⟨h, nil⟩
    · exact ⟨fun _ he => (nomatch he), nil⟩
    · have hall := h (e :: rest) rfl
      refine ⟨fun evs he x hx => ?_, fun x hx => ?_⟩
      · cases he; exact hall x (List.mem_cons_of_mem _ hx)
      · rw [List.mem_singleton.1 hx]; exact hall e List.mem_cons_self
  | _ => exact absurd rfl hr

theorem ESess.step_op (s : ESess) {o : Op} (h : o.isUp = true) :
    s.step (.op o) = ({ s with core := (s.core.step o).1 }, (s.core.step o).2) := by
  cases o with
  | established _ _ => cases h
  | _ => rfl

/-- After the End-of-RIB of a session has been sent, no other one is sent until the next
    establishment, whatever happens. -/
theorem eor_not_repeated (s : ESess) (ops : List EOp) (hs : s.sendEor = false) (hn : NoEorInflight s.core)
    (hops : ∀ o ∈ ops, o.isUp = true) :
    ∀ e ∈ (s.run ops).2, isEorEv e = false := by
  induction ops generalizing s with
  | nil => intro e he; cases he
  | cons o os ih =>
    have hup := hops o List.mem_cons_self
    have hstep : (s.step o).1.sendEor = false ∧ NoEorInflight (s.step o).1.core
        ∧ ∀ e ∈ (s.step o).2, isEorEv e = false := by
      cases o with
      | eor => simp [ESess.step, hs]; exact hn
      | op o' => rw [ESess.step_op s hup]; exact ⟨hs, noEor_step s.core o' hn⟩
    intro e he
    rcases List.mem_append.1 he with h1 | h1
    · exact hstep.2.2 e h1
    · exact ih (s.step o).1 hstep.1 hstep.2.1 (fun x hx => hops x (List.mem_cons_of_mem _ hx)) e h1

end Exa.Rib
