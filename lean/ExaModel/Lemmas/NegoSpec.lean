import ExaModel.Lemmas.NegoSet
/-! `negotiate` (the code) against the raw capability lists and against `rfcNegotiate`; what a permutation of the
    peer's capabilities leaves unchanged; `validateOpen` against `rfcRefusals`. -/
namespace Exa.Open

theorem negotiate_families_eq (o t : OpenMsg) :
    (negotiate o t).families
      = ((capSet t.caps).mp.getD []).filter (fun f => ((capSet o.caps).mp.getD []).contains f) := by
  simp only [negotiate, negotiateSets]
  cases (capSet t.caps).mp <;> cases (capSet o.caps).mp <;> simp

theorem negotiate_nexthop_eq (o t : OpenMsg) :
    (negotiate o t).nexthop
      = ((capSet t.caps).nexthop.getD []).filter (fun x => ((capSet o.caps).nexthop.getD []).contains x) := by
  simp only [negotiate, negotiateSets]
  cases (capSet t.caps).nexthop <;> cases (capSet o.caps).nexthop <;> simp

theorem negotiate_families_mem (o t : OpenMsg) (f : Family) :
    f ∈ (negotiate o t).families ↔ Cap.mp f.1 f.2 ∈ o.caps ∧ Cap.mp f.1 f.2 ∈ t.caps := by
  rw [negotiate_families_eq, List.mem_filter, List.contains_iff_mem, capSet_mp_mem, capSet_mp_mem, and_comm]

theorem negotiate_nexthop_mem (o t : OpenMsg) (x : Triple) :
    x ∈ (negotiate o t).nexthop ↔ x ∈ nexthopOf o.caps ∧ x ∈ nexthopOf t.caps := by
  rw [negotiate_nexthop_eq, List.mem_filter, List.contains_iff_mem, capSet_nexthop_mem, capSet_nexthop_mem, and_comm]

theorem negotiate_nexthop_nodup (o t : OpenMsg) : (negotiate o t).nexthop.Nodup := by
  rw [negotiate_nexthop_eq]
  exact (capSet_nexthop_nodup t.caps).sublist List.filter_sublist

theorem negotiate_send (o t : OpenMsg) (f : Family) :
    (negotiate o t).send f = (sendBit (srOf o.caps f) && recvBit (srOf t.caps f)) := by
  simp only [negotiate, negotiateSets_send, capSet_addpath_sr]

theorem negotiate_receive (o t : OpenMsg) (f : Family) :
    (negotiate o t).receive f = (recvBit (srOf o.caps f) && sendBit (srOf t.caps f)) := by
  simp only [negotiate, negotiateSets_receive, capSet_addpath_sr]

theorem negotiate_asn4 (o t : OpenMsg) :
    (negotiate o t).asn4 = ((asn4Of o.caps).isSome && (asn4Of t.caps).isSome) := by
  rw [← capSet_asn4, ← capSet_asn4]; rfl

theorem negotiate_refresh (o t : OpenMsg) :
    (negotiate o t).refresh =
      if o.caps.contains .enhanced && t.caps.contains .enhanced then .enhanced
      else if o.caps.contains .refresh && t.caps.contains .refresh then .normal else .absent := by
  rw [← capSet_enhanced, ← capSet_enhanced, ← capSet_refresh, ← capSet_refresh,
    Bool.and_comm (capSet o.caps).enhanced, Bool.and_comm (capSet o.caps).refresh]
  rfl

theorem negotiate_msgSize (o t : OpenMsg) :
    (negotiate o t).msgSize = if o.caps.contains .extMsg && t.caps.contains .extMsg then 65535 else 4096 := by
  rw [← capSet_extMsg, ← capSet_extMsg, Bool.and_comm]; rfl

theorem negotiate_hold (o t : OpenMsg) : (negotiate o t).hold = min o.hold t.hold := rfl

theorem negotiate_localAs (o t : OpenMsg) : (negotiate o t).localAs = (asn4Of o.caps).getD o.myAs := by
  rw [← capSet_asn4]; rfl

theorem negotiate_peerAs (o t : OpenMsg) :
    (negotiate o t).peerAs =
      if t.myAs = asTrans ∧ ((asn4Of o.caps).isSome && (asn4Of t.caps).isSome) = true
      then (asn4Of t.caps).getD t.myAs else t.myAs := by
  rw [← capSet_asn4, ← capSet_asn4]; rfl

theorem negotiate_operational (o t : OpenMsg) :
    (negotiate o t).operational = (o.caps.contains .operational && t.caps.contains .operational) := by
  rw [← capSet_operational, ← capSet_operational]; rfl

theorem negotiate_linkLocal (o t : OpenMsg) :
    (negotiate o t).linkLocal = (o.caps.contains .linkLocal && t.caps.contains .linkLocal) := by
  rw [← capSet_linkLocal, ← capSet_linkLocal]; rfl

theorem negotiate_multisession (o t : OpenMsg) :
    (negotiate o t).multisession =
      if ((o.caps.any (isMs false) && t.caps.any (isMs false)) || (o.caps.any (isMs true) && t.caps.any (isMs true))) = true then
        if some ((capSet o.caps).mp.getD []) ≠ (capSet t.caps).mp then .err 2 8 else .yes
      else if o.caps.any (isMs false) = true then .err 2 9 else .no := by
  rw [← capSet_multisession, ← capSet_multisession, ← capSet_multisessionCisco, ← capSet_multisessionCisco]; rfl

theorem sendBit_eq_rfc (sr : Nat) (h : sr ≤ 3) : sendBit sr = rfcSend sr :=
  (by decide : ∀ n < 4, sendBit n = rfcSend n) sr (Nat.lt_succ_of_le h)

theorem recvBit_eq_rfc (sr : Nat) (h : sr ≤ 3) : recvBit sr = rfcRecv sr :=
  (by decide : ∀ n < 4, recvBit n = rfcRecv n) sr (Nat.lt_succ_of_le h)

/-- every Send/Receive octet of the ADD-PATH capabilities is one RFC 7911 defines (or 0) -/
def validSR (caps : List Cap) : Prop := ∀ e ∈ addpathEntries caps, e.2.2 ≤ 3

theorem srOf_le (caps : List Cap) (f : Family) (h : validSR caps) : srOf caps f ≤ 3 := by
  rcases srOf_cases caps f with ⟨h0, _⟩ | ⟨e, he, _, hv⟩
  · rw [h0]; omega
  · exact hv ▸ h e he

theorem srOf_ne_zero_mem (caps : List Cap) (f : Family) (h : srOf caps f ≠ 0) :
    f ∈ (addpathEntries caps).map (fun e => (e.1, e.2.1)) := by
  rcases srOf_cases caps f with ⟨h0, _⟩ | ⟨e, he, hf, _⟩
  · exact absurd h0 h
  · exact List.mem_map.2 ⟨e, he, hf⟩

/-- `rfcNegotiate` looks for the ADD-PATH families among those of our entries; nothing is lost by that, since a
    family without an entry has octet 0, which asks for nothing. -/
theorem mem_filter_entries (caps : List Cap) (b : Nat → Bool) (hb : b 0 = false) (q : Family → Bool) (f : Family) :
    f ∈ ((addpathEntries caps).map (fun e => (e.1, e.2.1))).filter (fun f => b (srOf caps f) && q f)
      ↔ b (srOf caps f) = true ∧ q f = true := by
  rw [List.mem_filter, Bool.and_eq_true]
  exact ⟨And.right, fun h => ⟨srOf_ne_zero_mem caps f (fun e => by rw [e, hb] at h; cases h.1), h⟩⟩

theorem rfc_apSend_mem (o t : OpenMsg) (f : Family) :
    f ∈ (rfcNegotiate o t).apSend ↔ rfcSend (srOf o.caps f) = true ∧ rfcRecv (srOf t.caps f) = true :=
  mem_filter_entries o.caps rfcSend rfl (fun f => rfcRecv (srOf t.caps f)) f

theorem rfc_apRecv_mem (o t : OpenMsg) (f : Family) :
    f ∈ (rfcNegotiate o t).apRecv ↔ rfcRecv (srOf o.caps f) = true ∧ rfcSend (srOf t.caps f) = true :=
  mem_filter_entries o.caps rfcRecv rfl (fun f => rfcSend (srOf t.caps f)) f

theorem rfc_families_mem (o t : OpenMsg) (f : Family) :
    f ∈ (rfcNegotiate o t).families ↔ Cap.mp f.1 f.2 ∈ o.caps ∧ Cap.mp f.1 f.2 ∈ t.caps := by
  simp [rfcNegotiate, List.mem_filter, mem_mpOf]

theorem rfc_nexthop_mem (o t : OpenMsg) (x : Triple) :
    x ∈ (rfcNegotiate o t).nexthop ↔ x ∈ nexthopOf o.caps ∧ x ∈ nexthopOf t.caps := by
  simp [rfcNegotiate, List.mem_filter]

/-- the peer's My-AS field is what RFC 6793 §4.1 tells a NEW speaker to put there -/
def consistentAs (t : OpenMsg) : Prop := ∀ a, asn4Of t.caps = some a → t.myAs = trans a

theorem peerAs_eq_rfc (o t : OpenMsg) (h : consistentAs t) : (negotiate o t).peerAs = (rfcNegotiate o t).peerAs := by
  rw [negotiate_peerAs]
  simp only [rfcNegotiate]
  cases ho : asn4Of o.caps <;> cases ht : asn4Of t.caps <;> simp
  -- both are 4-octet speakers: a My-AS field other than AS_TRANS is the AS number itself
  rename_i b
  have := h b ht
  unfold Open.trans at this
  split at this <;> simp [this]

/-! ### Order of the capabilities in the peer's OPEN

The negotiated parameters depend on the *set* of capabilities only, as long as repeated ASN4 capabilities and
repeated ADD-PATH entries of a family do not contradict each other (when they do, the code takes the later one:
`capSet_asn4`, `capSet_addpath_sr`). -/

/-- all ASN4 capabilities of the list carry the same AS number -/
def asn4Single (caps : List Cap) : Prop := ∀ v w, Cap.asn4 v ∈ caps → Cap.asn4 w ∈ caps → v = w

/-- all ADD-PATH entries of one family carry the same Send/Receive octet -/
def srSingle (caps : List Cap) : Prop :=
  ∀ e e', e ∈ addpathEntries caps → e' ∈ addpathEntries caps → (e.1, e.2.1) = (e'.1, e'.2.1) → e.2.2 = e'.2.2

theorem asn4Of_eq_some_iff (caps : List Cap) (h : asn4Single caps) (v : Nat) :
    asn4Of caps = some v ↔ Cap.asn4 v ∈ caps := by
  refine ⟨asn4Of_mem caps v, fun hv => ?_⟩
  rcases asn4Of_cases caps with ⟨_, hn⟩ | ⟨w, hw, e⟩
  · exact absurd hv (hn v)
  · rw [e, h v w hv hw]

theorem asn4Of_perm (c1 c2 : List Cap) (hp : c1.Perm c2) (h : asn4Single c1) : asn4Of c1 = asn4Of c2 :=
  Option.ext fun v => by
    rw [asn4Of_eq_some_iff c1 h, hp.mem_iff,
      asn4Of_eq_some_iff c2 (fun v w hv hw => h v w (hp.mem_iff.2 hv) (hp.mem_iff.2 hw))]

theorem srOf_perm (c1 c2 : List Cap) (hp : c1.Perm c2) (h : srSingle c1) (f : Family) : srOf c1 f = srOf c2 f := by
  have hm : ∀ e, e ∈ addpathEntries c2 → e ∈ addpathEntries c1 := fun e => (hp.flatMap_right _).mem_iff.2
  rcases srOf_cases c1 f with ⟨h1, n1⟩ | ⟨e1, m1, f1, v1⟩ <;> rcases srOf_cases c2 f with ⟨h2, n2⟩ | ⟨e2, m2, f2, v2⟩
  · rw [h1, h2]
  · exact absurd f2 (n1 e2 (hm e2 m2))
  · exact absurd f1 (n2 e1 ((hp.flatMap_right _).mem_iff.1 m1))
  · rw [v1, v2, h e1 e2 m1 (hm e2 m2) (f1.trans f2.symm)]

/-- The parameters `negotiate_perm` compares, the two lists as sets.  `operational`, `linkLocal` and the paths limits
    are left out; so is `multisession`, whose verdict compares the two MP lists in the order the dicts hold them. -/
structure SameParams (a b : Negotiated) : Prop where
  hold : a.hold = b.hold
  asn4 : a.asn4 = b.asn4
  localAs : a.localAs = b.localAs
  peerAs : a.peerAs = b.peerAs
  families : ∀ f, f ∈ a.families ↔ f ∈ b.families
  nexthop : ∀ x, x ∈ a.nexthop ↔ x ∈ b.nexthop
  send : ∀ f, a.send f = b.send f
  receive : ∀ f, a.receive f = b.receive f
  refresh : a.refresh = b.refresh
  msgSize : a.msgSize = b.msgSize

theorem negotiate_perm (o t t' : OpenMsg) (hp : t.caps.Perm t'.caps)
    (hAs : t'.myAs = t.myAs) (hHold : t'.hold = t.hold)
    (h4 : asn4Single t.caps) (hsr : srSingle t.caps) :
    SameParams (negotiate o t) (negotiate o t') := by
  have a4 := asn4Of_perm _ _ hp h4
  have sr := srOf_perm _ _ hp hsr
  refine ⟨?_, ?_, rfl, ?_, fun f => ?_, fun x => ?_, fun f => ?_, fun f => ?_, ?_, ?_⟩
  · rw [negotiate_hold, negotiate_hold, hHold]
  · rw [negotiate_asn4, negotiate_asn4, a4]
  · rw [negotiate_peerAs, negotiate_peerAs, a4, hAs]
  · rw [negotiate_families_mem, negotiate_families_mem, hp.mem_iff]
  · rw [negotiate_nexthop_mem, negotiate_nexthop_mem, show x ∈ nexthopOf t.caps ↔ x ∈ nexthopOf t'.caps from (hp.flatMap_right _).mem_iff]
  · rw [negotiate_send, negotiate_send, sr]
  · rw [negotiate_receive, negotiate_receive, sr]
  · rw [negotiate_refresh, negotiate_refresh, hp.contains_eq, hp.contains_eq]
  · rw [negotiate_msgSize, negotiate_msgSize, hp.contains_eq]

/-- the multisession (draft) verdict, the last thing `validate` looks at -/
def msVerdict (n : Negotiated) : Option Err :=
  match n.multisession with
  | .err c s => some ⟨c, s⟩
  | _ => none

theorem validateOpen_eq (cfg : Cfg) (n : Negotiated) (t : OpenMsg) :
    validateOpen cfg n t =
      if cfg.peerAs ≠ 0 ∧ n.peerAs ≠ cfg.peerAs then some ⟨2, 2⟩
      else if t.bgpId = 0 then some ⟨2, 3⟩
      else if n.peerAs = cfg.localAs ∧ t.bgpId = cfg.routerId then some ⟨2, 3⟩
      else if t.hold ≠ 0 ∧ t.hold < 3 then some ⟨2, 6⟩
      else msVerdict n := by
  unfold validateOpen msVerdict holdMin
  rfl

/-- Of a list of faults, each listed when its test holds, the first is the one whose test holds first. -/
theorem or_head?_ite_append {α : Type} (c : Prop) [Decidable c] (e : α) (l : List α) (d : Option α) :
    (((if c then [e] else []) ++ l).head?).or d = if c then some e else l.head?.or d := by
  split <;> rfl

end Exa.Open
