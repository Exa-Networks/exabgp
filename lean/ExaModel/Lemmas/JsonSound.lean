import ExaModel.Lemmas.JsonParse
/-! Soundness of the duplicate-key check: whatever `parse` accepts has no repeated key in any object.
    Each parser is taken by cases along its own definition; the error branches return nothing. -/
namespace Exa.Json

def SoundV (f : Nat) : Prop := ∀ inp j r, pValue f inp = .ok (j, r) → j.nodup = true
def SoundM (f : Nat) : Prop := ∀ seen inp m r, pMembers f seen inp = .ok (m, r) →
  m.nodup = true ∧ m.keys.Nodup ∧ ∀ k ∈ m.keys, k ∉ seen
def SoundL (f : Nat) : Prop := ∀ inp l r, pElems f inp = .ok (l, r) → l.nodup = true

theorem soundV_step (f : Nat) (ih : ∀ g < f, SoundV g ∧ SoundM g ∧ SoundL g) : SoundV f := by
  intro inp j r
  fun_cases pValue f inp <;> intro h <;> cases h
  case case5 =>  -- `{` members
    have := (ih _ (Nat.lt_succ_self _)).2.1 _ _ _ _ ‹pMembers _ _ _ = _›
    simp [J.nodup, this.1, this.2.1]
  case case9 =>  -- `[` elements
    simpa [J.nodup] using (ih _ (Nat.lt_succ_self _)).2.2 _ _ _ ‹pElems _ _ = _›
  all_goals rfl

theorem soundL_step (f : Nat) (ih : ∀ g < f, SoundV g ∧ SoundM g ∧ SoundL g) : SoundL f := by
  intro inp l r
  fun_cases pElems f inp <;> intro h <;> cases h
  all_goals have hv := (ih _ (Nat.lt_succ_self _)).1 _ _ _ ‹pValue _ _ = _›
  · simp [JL.nodup, hv, (ih _ (Nat.lt_succ_self _)).2.2 _ _ _ ‹pElems _ _ = _›]  -- `,`: more elements
  · simp [JL.nodup, hv]  -- `]`: the last element

theorem soundM_step (f : Nat) (ih : ∀ g < f, SoundV g ∧ SoundM g ∧ SoundL g) : SoundM f := by
  intro seen inp m r
  fun_cases pMembers f seen inp <;> intro h <;> cases h
  all_goals have hv := (ih _ (Nat.lt_succ_self _)).1 _ _ _ ‹pValue _ _ = _›
  · -- `,`: the remaining members were read with this key among the keys seen
    obtain ⟨a, b, c⟩ := (ih _ (Nat.lt_succ_self _)).2.1 _ _ _ _ ‹pMembers _ _ _ = _›
    refine ⟨by simp [JM.nodup, hv, a], ?_, ?_⟩
    · simp only [JM.keys, List.nodup_cons]
      exact ⟨fun hin => c _ hin (by simp), b⟩
    · simp only [JM.keys, List.forall_mem_cons]
      exact ⟨‹_›, fun k' hk' hs => c k' hk' (by simp [hs])⟩
  · exact ⟨by simp [JM.nodup, hv], by simp [JM.keys], by simpa [JM.keys]⟩  -- `}`: the last member

theorem sound_all (f : Nat) : SoundV f ∧ SoundM f ∧ SoundL f := by
  induction f using Nat.strongRecOn with
  | _ f ih => exact ⟨soundV_step f ih, soundM_step f ih, soundL_step f ih⟩

end Exa.Json
