import ExaModel.Model.Reload
import ExaModel.Lemmas.RibDown
/-! Closed forms of what the reload machinery does to the Adj-RIB-Out cache (M-Rib level): the
    insertion of the configured routes by `attach_ribs()` (commit stage) and `replace_reload`.
    All for adj-rib-out kept. -/
namespace Exa.Reload
open Exa Exa.Rib

theorem lastOf_cons_of_some {t : List Route} {m : Nat} {x : Route} (h : lastOf t m = some x) (r : Route) :
    lastOf (r :: t) m = some x := by
  simp [lastOf, h]

theorem lastOf_cons_of_none {t : List Route} {m : Nat} (h : lastOf t m = none) (r : Route) :
    lastOf (r :: t) m = if r.nlri = m then some r else none := by
  simp [lastOf, h]

theorem lastOf_cons_ne {r : Route} {m : Nat} (h : r.nlri ≠ m) (t : List Route) :
    lastOf (r :: t) m = lastOf t m := by
  cases ht : lastOf t m with
  | some x => exact lastOf_cons_of_some ht r
  | none => rw [lastOf_cons_of_none ht, if_neg h]

theorem lastOf_spec {rs : List Route} {m : Nat} {r : Route} (h : lastOf rs m = some r) : r ∈ rs ∧ r.nlri = m := by
  induction rs with
  | nil => cases h
  | cons x t ih =>
    cases ht : lastOf t m with
    | some y =>
      rw [lastOf_cons_of_some ht] at h
      exact (ih (ht.trans h)).imp (List.mem_cons_of_mem _) id
    | none =>
      rw [lastOf_cons_of_none ht] at h
      split at h
      · cases h; exact ⟨List.mem_cons_self, ‹_›⟩
      · cases h

theorem lastOf_nlri {rs : List Route} {m : Nat} {r : Route} (h : lastOf rs m = some r) : r.nlri = m :=
  (lastOf_spec h).2

theorem lastOf_mem {rs : List Route} {m : Nat} {r : Route} (h : lastOf rs m = some r) : r ∈ rs :=
  (lastOf_spec h).1

theorem lastOf_none_iff (rs : List Route) (m : Nat) : lastOf rs m = none ↔ hasNlri rs m = false := by
  induction rs with
  | nil => simp [lastOf, hasNlri]
  | cons r t ih =>
    rw [hasNlri, List.any_cons, ← hasNlri, Bool.or_eq_false_iff, ← ih]
    cases ht : lastOf t m with
    | some x => simp [lastOf_cons_of_some ht]
    | none => by_cases hr : r.nlri = m <;> simp [lastOf_cons_of_none ht, hr]

theorem lastOf_some_hasNlri {rs : List Route} {m : Nat} {r : Route} (h : lastOf rs m = some r) :
    hasNlri rs m = true :=
  List.any_eq_true.2 ⟨r, lastOf_mem h, beq_iff_eq.2 (lastOf_nlri h)⟩

theorem view_lastOf_cons (r : Route) (t : List Route) (m : Nat) (v : Option (Nat × Nat)) :
    (match lastOf (r :: t) m with
      | some q => some (q.attr, q.nh)
      | none => v)
    = match lastOf t m with
      | some q => some (q.attr, q.nh)
      | none => if m = r.nlri then some (r.attr, r.nh) else v := by
  cases ht : lastOf t m with
  | some x => rw [lastOf_cons_of_some ht]
  | none =>
    rw [lastOf_cons_of_none ht]
    by_cases hm : r.nlri = m
    · simp [hm]
    · simp [hm, Ne.symm hm]

/-- The configured route is announced by the insertion (it is not parked by a `withdraw` watchdog). -/
def CRoute.live (cr : CRoute) : Bool :=
  match cr.wd with
  | some (_, true) => false
  | _ => true

theorem insertOp_isRibOnly (cr : CRoute) : (insertOp cr).isRibOnly = true := by
  fun_cases insertOp cr <;> rfl

theorem insertOps_isRibOnly (n : Nbr) : ∀ op ∈ insertOps n, op.isRibOnly = true := by
  intro op hop
  obtain ⟨cr, _, rfl⟩ := List.mem_map.1 hop
  exact insertOp_isRibOnly cr

theorem insertOp_cacheView (s : Sess) (cr : CRoute) (hc : s.rib.cacheOn = true) (hl : cr.live = true)
    (m : Nat) :
    (s.step (insertOp cr)).1.rib.cacheView m
      = if m = cr.r.nlri then some (cr.r.attr, cr.r.nh) else s.rib.cacheView m := by
  fun_cases insertOp cr with
  | case1 => exact add_cacheView _ _ _ hc m
  | case2 name w hw =>
    cases w with
    | true => simp [CRoute.live, hw] at hl
    | false =>
      simp only [Sess.step, Rib.wdogAdd, Bool.false_eq_true, if_false]
      rw [add_cacheView _ _ _ (by exact hc)]; rfl

/-- After inserting a list of configured routes the Adj-RIB-Out holds, for every prefix, the last
    route listed for it, and otherwise what it held. -/
theorem inserts_cacheView (crs : List CRoute) (s : Sess) (hc : s.rib.cacheOn = true)
    (hl : ∀ cr ∈ crs, cr.live = true) (m : Nat) :
    (s.run (crs.map insertOp)).1.rib.cacheView m
      = match lastOf (crs.map (·.r)) m with
        | some r => some (r.attr, r.nh)
        | none => s.rib.cacheView m := by
  induction crs generalizing s with
  | nil => rfl
  | cons cr t ih =>
    have hc' := ((frame_closed true s.rib.families).step s _ (insertOp_isRibOnly cr) ⟨hc, rfl⟩).1
    rw [List.map_cons, List.map_cons, view_lastOf_cons, ← insertOp_cacheView s cr hc (hl cr List.mem_cons_self)]
    exact ih _ hc' fun c hcm => hl c (List.mem_cons_of_mem _ hcm)

theorem reloadFold_idx (new : List Route) (rib : Rib) (idx : AList Nat Route) (m : Nat) :
    AList.lookup m (reloadFold new rib idx).2 = if hasNlri new m then none else AList.lookup m idx := by
  fun_induction reloadFold new rib idx with
  | case1 => rfl
  | case2 r t rib idx x hl ih =>
    rw [hasNlri, List.any_cons, ← hasNlri, ih, AList.lookup_erase, ite_any_cons]
  | case3 r t rib idx hl ih =>
    rw [hasNlri, List.any_cons, ← hasNlri, ih]
    by_cases hm : r.nlri = m
    · subst hm; simp [hl]
    · simp [hm]

theorem reloadFold_wf (new : List Route) (rib : Rib) (idx : AList Nat Route) (h : WFMap idx) :
    WFMap (reloadFold new rib idx).2 := by
  fun_induction reloadFold new rib idx with
  | case1 => exact h
  | case2 r t rib idx x hl ih => exact ih (wfmap_erase h _)
  | case3 r t rib idx hl ih => exact ih h

/-- A prefix that is not in the index: every route the new configuration lists for it is
    force-added, the last one stays. -/
theorem reloadFold_fresh (new : List Route) (rib : Rib) (idx : AList Nat Route) (hc : rib.cacheOn = true)
    (m : Nat) (hi : AList.lookup m idx = none) :
    (reloadFold new rib idx).1.cacheView m
      = match lastOf new m with
        | some r => some (r.attr, r.nh)
        | none => rib.cacheView m := by
  fun_induction reloadFold new rib idx with
  | case1 => rfl
  | case2 r t rib idx x hl ih =>
    have hne : r.nlri ≠ m := fun e => by rw [e, hi] at hl; cases hl
    rw [lastOf_cons_ne hne]
    exact ih hc (by rw [AList.lookup_erase]; split <;> simp [hi])
  | case3 r t rib idx hl ih =>
    rw [view_lastOf_cons, ← add_cacheView rib r true hc]
    exact ih (add_cacheOn rib r true ▸ hc) hi

/-- Any prefix: its entry is untouched, or it is the last route the new configuration lists for it
    (the first route of a prefix found in the index is popped, not added). -/
theorem reloadFold_view (new : List Route) (rib : Rib) (idx : AList Nat Route) (hc : rib.cacheOn = true)
    (m : Nat) :
    (reloadFold new rib idx).1.cacheView m = rib.cacheView m ∨
    ∃ r, lastOf new m = some r ∧ (reloadFold new rib idx).1.cacheView m = some (r.attr, r.nh) := by
  fun_induction reloadFold new rib idx with
  | case1 => exact .inl rfl
  | case2 r t rib idx x hl ih =>
    by_cases hm : r.nlri = m
    · rw [reloadFold_fresh t rib _ hc m (hm ▸ AList.lookup_erase_self r.nlri idx)]
      cases ht : lastOf t m with
      | some q => exact .inr ⟨q, lastOf_cons_of_some ht r, rfl⟩
      | none => exact .inl rfl
    · rw [lastOf_cons_ne hm]; exact ih hc
  | case3 r t rib idx hl ih =>
    by_cases hm : r.nlri = m
    · have := reloadFold_fresh (r :: t) rib idx hc m (hm ▸ hl)
      rw [reloadFold, hl] at this
      rw [this]
      cases hq : lastOf (r :: t) m with
      | some q => exact .inr ⟨q, rfl, rfl⟩
      | none =>
        have := (lastOf_none_iff _ _).1 hq
        simp [hasNlri, hm] at this
    · rw [lastOf_cons_ne hm]
      have hv : (rib.add r true).cacheView m = rib.cacheView m :=
        (add_cacheView rib r true hc m).trans (if_neg (Ne.symm hm))
      exact hv ▸ ih (add_cacheOn rib r true ▸ hc)

/-- **`replace_reload` on a RIB that already holds the new configuration** (that is what the
    insertion by `attach_ribs()` left): every prefix of the new configuration stays at the last route
    listed for it, a prefix of the previous configuration that is not listed any more is removed,
    everything else is untouched. -/
theorem replaceReload_cacheView (rib : Rib) (prev new : List Route) (hc : rib.cacheOn = true)
    (hpre : ∀ m r, lastOf new m = some r → rib.cacheView m = some (r.attr, r.nh)) (m : Nat) :
    (rib.replaceReload prev new).cacheView m = deltaView rib.cacheView prev new m := by
  have hc' := ((frame_closed true rib.families).reloadFold new rib (prevIndex prev) ⟨hc, rfl⟩).1
  rw [replaceReload_eq, delRoutes_cacheView _ _ hc', any_values (reloadFold_wf new rib _ (prevIndex_wf prev)),
    reloadFold_idx, deltaView]
  have hv := reloadFold_view new rib (prevIndex prev) hc m
  cases hlo : lastOf new m with
  | some r =>
    simp only [lastOf_some_hasNlri hlo, if_true, Option.isSome_none, Bool.false_eq_true, if_false]
    rcases hv with h | ⟨q, hq, h⟩
    · exact h.trans (hpre m r hlo)
    · rw [h, Option.some.inj (hq.symm.trans hlo)]
  | none =>
    simp only [(lastOf_none_iff new m).1 hlo, Bool.false_eq_true, if_false, prevIndex_isSome]
    rcases hv with h | ⟨q, hq, _⟩
    · rw [h]; rfl
    · rw [hlo] at hq; cases hq

theorem famOK_add (rib : Rib) (r : Route) (f : Bool) (h : FamOK rib) (hr : rib.families.contains r.fam = true) :
    FamOK (rib.add r f) := by
  fun_cases Rib.add rib r f
  · exact h
  · intro x hx
    simp only [Rib.updateRib] at hx ⊢
    split at hx
    · obtain ⟨p, hp, rfl⟩ := List.mem_map.1 hx
      rcases AList.mem_insert hp with e | e
      · subst e; exact hr
      · exact h _ (List.mem_map.2 ⟨p, e, rfl⟩)
    · exact h x hx

theorem famOK_del (rib : Rib) (k f : Nat) (h : FamOK rib) : FamOK (rib.del k f) := by
  intro x hx
  simp only [Rib.del] at hx ⊢
  split at hx
  · obtain ⟨p, hp, rfl⟩ := List.mem_map.1 hx
    exact h _ (List.mem_map.2 ⟨p, AList.mem_erase hp, rfl⟩)
  · exact h x hx

theorem famOK_delRoutes (rs : List Route) (rib : Rib) (h : FamOK rib) : FamOK (rib.delRoutes rs) := by
  induction rs generalizing rib with
  | nil => exact h
  | cons r t ih => exact ih _ (famOK_del rib _ _ h)

theorem famOK_reloadFold (new : List Route) (rib : Rib) (idx : AList Nat Route) (h : FamOK rib)
    (hn : ∀ r ∈ new, rib.families.contains r.fam = true) : FamOK (reloadFold new rib idx).1 := by
  fun_induction reloadFold new rib idx with
  | case1 => exact h
  | case2 r t rib idx x hl ih => exact ih h fun x hx => hn x (List.mem_cons_of_mem _ hx)
  | case3 r t rib idx hl ih =>
    exact ih (famOK_add rib r true h (hn r List.mem_cons_self))
      (add_families rib r true ▸ fun x hx => hn x (List.mem_cons_of_mem _ hx))

theorem famOK_replaceReload (rib : Rib) (prev new : List Route) (h : FamOK rib)
    (hn : ∀ r ∈ new, rib.families.contains r.fam = true) : FamOK (rib.replaceReload prev new) :=
  replaceReload_eq rib prev new ▸ famOK_delRoutes _ _ (famOK_reloadFold new rib _ h hn)

theorem famOK_insertOp (s : Sess) (cr : CRoute) (h : FamOK s.rib) (hr : s.rib.families.contains cr.r.fam = true) :
    FamOK (s.step (insertOp cr)).1.rib := by
  fun_cases insertOp cr with
  | case1 => exact famOK_add _ _ _ h hr
  | case2 name w =>
    cases w with
    | true => exact h
    | false =>
      simp only [Sess.step, Rib.wdogAdd, Bool.false_eq_true, if_false]
      exact famOK_add _ _ _ (by exact h) (by exact hr)

theorem famOK_inserts (crs : List CRoute) (s : Sess) (h : FamOK s.rib)
    (hr : ∀ cr ∈ crs, s.rib.families.contains cr.r.fam = true) :
    FamOK (s.run (crs.map insertOp)).1.rib := by
  induction crs generalizing s with
  | nil => exact h
  | cons cr t ih =>
    have hf := ((frame_closed s.rib.cacheOn s.rib.families).step s _ (insertOp_isRibOnly cr) ⟨rfl, rfl⟩).2
    exact ih _ (famOK_insertOp s cr h (hr cr List.mem_cons_self))
      fun c hcm => hf ▸ hr c (List.mem_cons_of_mem _ hcm)

end Exa.Reload
