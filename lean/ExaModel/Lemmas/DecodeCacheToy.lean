import ExaModel.Lemmas.DecodeCache
/-!
A concrete toy parser for the C19 witnesses and non-vacuity examples, with the proof that it
satisfies the key hypothesis (`Parser.DependsOnlyOn Params.attrKey`).
-/
namespace Exa.DecodeCache.Toy
open Exa Exa.DecodeCache

/-- First byte 14: an MP block (depends on ADD-PATH); 255: treat-as-withdraw; 254: raises;
    26: AIGP (depends on `aigp`); empty block: empty collection; anything else: an AS_PATH read
    with 4- or 2-byte AS numbers. -/
def toyParse (p : Params) (bs : Bytes) : Nat :=
  if bs = [] then 0
  else if bs.head? = some 14 then (if p.addpath = [] then 1000 else 1001)
  else if bs.head? = some 255 then 999
  else if bs.head? = some 254 then 998
  else if bs.head? = some 26 then (if p.aigp then 26 else 27)
  else if p.asn4 then 4 else 2

def toyKind (r : Nat) : Kind :=
  if r = 0 then .empty else if r = 1000 ∨ r = 1001 then .mp else if r = 999 then .taw
  else if r = 998 then .error else .plain

def toy : Parser Nat := { parse := toyParse, kind := toyKind }

def s4 : Params := { asn4 := true, aigp := false, addpath := [], families := [(1, 1)], nexthop := false }
def s2 : Params := { asn4 := false, aigp := false, addpath := [], families := [(1, 1)], nexthop := false }
def s4ap : Params := { asn4 := true, aigp := false, addpath := [(1, 1)], families := [(1, 1), (2, 1)], nexthop := false }
def s4ai : Params := { asn4 := true, aigp := true, addpath := [], families := [(1, 1)], nexthop := false }

/-- the F8 block: `02 02 0001 0002 02 01 0003` -/
def f8 : Bytes := [2, 2, 0, 1, 0, 2, 2, 1, 0, 3]

/-- The toy parser satisfies the key hypothesis: its stored results depend on the parameters
    only through `(asn4, aigp)` (its MP results depend on ADD-PATH, and are never stored). -/
theorem toy_depends : toy.DependsOnlyOn Params.attrKey := by
  intro p p' bs hk he _
  simp only [Params.attrKey, Prod.mk.injEq] at hk
  by_cases h14 : bs.head? = some 14
  · -- an MP block is never stored
    have h0 : bs ≠ [] := by rintro rfl; cases h14
    simp only [toy, toyParse, h0, h14, if_true, if_false] at he
    split at he <;> simp [toyKind, Kind.effect] at he
  · simp only [toy, toyParse, h14, if_false, hk.1, hk.2]

end Exa.DecodeCache.Toy
