import ExaModel.Model.Frame
/-! Lemmas for M-Frame: `parse1` is stable under appending bytes, `pump` is fuel-independent and
    distributes over appended input, the reader state between reads, feeding appended chunks,
    parsing the reference encoding. -/
namespace Exa.Frame
open Exa Exa.Generated.MsgLength

theorem parse1_short {max : Nat} {bs : Bytes} (h : bs.length < 19) : parse1 max bs = .need := by
  simp [parse1, headerLen, h]

section
variable {max : Nat} {a : Bytes} {ty c s : Nat} {body rest : Bytes}

theorem parse1_msg_iff : parse1 max a = .out (.msg ty body) rest ↔
    19 ≤ a.length ∧ hdrErr max a = none ∧ hdrLen a ≤ a.length ∧
      hdrTy a = ty ∧ (a.drop 19).take (hdrLen a - 19) = body ∧ a.drop (hdrLen a) = rest := by
  fun_cases parse1 max a
  case case1 h => exact ⟨nofun, fun h' => absurd h'.1 (Nat.not_le.2 h)⟩      -- header incomplete
  case case2 he => exact ⟨nofun, fun h' => nomatch he ▸ h'.2.1⟩               -- header error
  case case3 h => exact ⟨nofun, fun h' => absurd h'.2.2.1 (Nat.not_le.2 h)⟩  -- body incomplete
  case case4 h19 he hl =>                                                     -- a message
    simp [he, (Nat.not_lt.1 h19 : 19 ≤ a.length), Nat.not_lt.1 hl, headerLen, and_assoc]

theorem parse1_err_iff : parse1 max a = .out (.err c s) rest ↔
    19 ≤ a.length ∧ hdrErr max a = some (c, s) ∧ rest = [] := by
  fun_cases parse1 max a
  case case1 h => exact ⟨nofun, fun h' => absurd h'.1 (Nat.not_le.2 h)⟩  -- header incomplete
  case case2 h19 _ _ he =>                                                -- header error
    simp [he, (Nat.not_lt.1 h19 : 19 ≤ a.length), Prod.ext_iff, eq_comm]
  case case3 he _ => exact ⟨nofun, fun h' => nomatch he ▸ h'.2.1⟩        -- body incomplete
  case case4 he _ => exact ⟨nofun, fun h' => nomatch he ▸ h'.2.1⟩        -- a message

end

theorem getD_append_left (a b : Bytes) (i : Nat) (h : i < a.length) : (a ++ b).getD i 0 = a.getD i 0 := by
  simp [List.getD_eq_getElem?_getD, List.getElem?_append_left h]

theorem hdrLen_append (a b : Bytes) (h : 19 ≤ a.length) : hdrLen (a ++ b) = hdrLen a := by
  unfold hdrLen
  rw [List.drop_append_of_le_length (by omega : 16 ≤ a.length)]
  have hl : (a.drop 16).length ≥ 2 := by simp; omega
  simp only [rd16]
  rw [getD_append_left _ _ 0 (by omega), getD_append_left _ _ 1 (by omega)]

theorem hdrTy_append (a b : Bytes) (h : 19 ≤ a.length) : hdrTy (a ++ b) = hdrTy a :=
  getD_append_left a b 18 (by omega)

theorem hdrErr_append (max : Nat) (a b : Bytes) (h : 19 ≤ a.length) : hdrErr max (a ++ b) = hdrErr max a := by
  unfold hdrErr
  rw [hdrLen_append a b h, hdrTy_append a b h, List.take_append_of_le_length (by omega : 16 ≤ a.length)]

theorem hdrErr_none_len (max : Nat) (a : Bytes) (h : hdrErr max a = none) : 19 ≤ hdrLen a := by
  revert h
  fun_cases hdrErr max a <;> intro h <;> cases h
  case case4 hl _ => exact Nat.not_lt.1 fun hlt => hl (.inl hlt)  -- no error: the length test failed

theorem parse1_msg_append (max : Nat) (a b : Bytes) (ty : Nat) (body rest : Bytes)
    (h : parse1 max a = .out (.msg ty body) rest) :
    parse1 max (a ++ b) = .out (.msg ty body) (rest ++ b) ∧ rest.length < a.length := by
  obtain ⟨h19, he, hle, rfl, rfl, rfl⟩ := parse1_msg_iff.1 h
  have hlen := hdrErr_none_len max a he
  refine ⟨parse1_msg_iff.2 ?_, by simp; omega⟩
  rw [hdrErr_append max a b h19, hdrLen_append a b h19, hdrTy_append a b h19,
    List.drop_append_of_le_length h19, List.take_append_of_le_length (by simp; omega),
    List.drop_append_of_le_length hle]
  exact ⟨by simp; omega, he, by simp; omega, rfl, rfl, rfl⟩

theorem parse1_err_append (max : Nat) (a b : Bytes) (c s : Nat) (rest : Bytes)
    (h : parse1 max a = .out (.err c s) rest) :
    parse1 max (a ++ b) = .out (.err c s) [] ∧ rest = [] := by
  obtain ⟨h19, he, rfl⟩ := parse1_err_iff.1 h
  exact ⟨parse1_err_iff.2 ⟨by simp; omega, by rw [hdrErr_append max a b h19, he], rfl⟩, rfl⟩

/-- A message that `a ++ b` completes only with bytes of `b` is not yet a message in `a`. -/
theorem parse1_need_of_append (max : Nat) (a b : Bytes) (ty : Nat) (body rest : Bytes)
    (h : parse1 max (a ++ b) = .out (.msg ty body) rest) (hb : rest.length < b.length) :
    parse1 max a = .need := by
  cases ha : parse1 max a with
  | need => rfl
  | out o r =>
    cases o with
    | err c s => rw [(parse1_err_append max a b c s r ha).1] at h; cases h
    | msg ty' body' =>
      rw [(parse1_msg_append max a b ty' body' r ha).1] at h
      cases h; simp at hb; omega

/-! ## `pump`

Fuel beyond the number of bytes is never used (`pump_fuel`), so the lemmas are stated for `run`,
`pump` with the fuel `Reader.feed` gives it. -/

theorem pump_succ (max f : Nat) (bs : Bytes) :
    pump max (f + 1) bs =
      match parse1 max bs with
      | .need => ([], bs, false)
      | .out (.err c s) _ => ([.err c s], [], true)
      | .out (.msg ty body) rest =>
        (.msg ty body :: (pump max f rest).1, (pump max f rest).2.1, (pump max f rest).2.2) := rfl

theorem pump_fuel (max : Nat) (f1 f2 : Nat) (bs : Bytes) (h1 : bs.length < f1) (h2 : bs.length < f2) :
    pump max f1 bs = pump max f2 bs := by
  induction f1 generalizing f2 bs with
  | zero => omega
  | succ n ih =>
    cases f2 with
    | zero => omega
    | succ m =>
      rw [pump_succ, pump_succ]
      cases hp : parse1 max bs with
      | need => rfl
      | out o rest =>
        cases o with
        | err c s => rfl
        | msg ty body =>
          have hlt := (parse1_msg_append max bs [] ty body rest hp).2
          simp only
          rw [ih m rest (by omega) (by omega)]

theorem pump_dead_left (max f : Nat) (bs : Bytes) : (pump max f bs).2.2 = true → (pump max f bs).2.1 = [] := by
  fun_induction pump max f bs with
  | case1 | case2 => nofun                       -- no fuel, incomplete message: not dead
  | case3 => exact fun _ => rfl                  -- error
  | case4 => rename_i heq ih; rwa [heq] at ih    -- a message, then the rest

def run (max : Nat) (bs : Bytes) : List Out × Bytes × Bool := pump max (bs.length + 1) bs

theorem run_need {max : Nat} {bs : Bytes} (h : parse1 max bs = .need) : run max bs = ([], bs, false) := by
  rw [run, pump_succ, h]

theorem run_err {max : Nat} {bs : Bytes} {c s : Nat} {rest : Bytes} (h : parse1 max bs = .out (.err c s) rest) :
    run max bs = ([.err c s], [], true) := by
  rw [run, pump_succ, h]

theorem run_msg {max : Nat} {bs : Bytes} {ty : Nat} {body rest : Bytes}
    (h : parse1 max bs = .out (.msg ty body) rest) :
    run max bs = (.msg ty body :: (run max rest).1, (run max rest).2.1, (run max rest).2.2) := by
  have hlt := (parse1_msg_append max bs [] ty body rest h).2
  rw [run, pump_succ, h]
  simp only
  rw [pump_fuel max bs.length (rest.length + 1) rest hlt (Nat.lt_succ_self _)]
  rfl

theorem run_append (max : Nat) (a b : Bytes) :
    run max (a ++ b) =
      if (run max a).2.2 then run max a
      else ((run max a).1 ++ (run max ((run max a).2.1 ++ b)).1,
            (run max ((run max a).2.1 ++ b)).2.1, (run max ((run max a).2.1 ++ b)).2.2) := by
  induction hn : a.length using Nat.strongRecOn generalizing a with
  | _ n ih =>
    cases hp : parse1 max a with
    | need => simp [run_need hp]
    | out o rest =>
      cases o with
      | err c s => simp [run_err hp, run_err (parse1_err_append max a b c s rest hp).1]
      | msg ty body =>
        obtain ⟨happ, hlt⟩ := parse1_msg_append max a b ty body rest hp
        rw [run_msg hp, run_msg happ, ih rest.length (hn ▸ hlt) rest rfl]
        cases hd : (run max rest).2.2 <;> simp [hd]

theorem run_left_need (max : Nat) (bs : Bytes) :
    (run max bs).2.2 = false → parse1 max (run max bs).2.1 = .need := by
  induction hn : bs.length using Nat.strongRecOn generalizing bs with
  | _ n ih =>
    cases hp : parse1 max bs with
    | need => rw [run_need hp]; exact fun _ => hp
    | out o rest =>
      cases o with
      | err c s => rw [run_err hp]; intro h; cases h
      | msg ty body =>
        rw [run_msg hp]
        exact ih rest.length (hn ▸ (parse1_msg_append max bs [] ty body rest hp).2) rest rfl

/-- Between reads the reader either is dead or holds an incomplete message. -/
def Stable (r : Reader) : Prop := r.dead = true ∨ parse1 r.max r.pend = .need

theorem stable_of_pend_nil {r : Reader} (h : r.pend = []) : Stable r :=
  .inr (by rw [h]; exact parse1_short (by decide))

theorem stable_init (max : Nat) : Stable (Reader.init max) := stable_of_pend_nil rfl

theorem feed_dead {r : Reader} (h : r.dead = true) (bs : Bytes) : r.feed bs = (r, []) := by
  simp [Reader.feed, h]

theorem feed_alive {r : Reader} (h : r.dead = false) (bs : Bytes) :
    r.feed bs =
      ({ r with pend := (run r.max (r.pend ++ bs)).2.1, dead := (run r.max (r.pend ++ bs)).2.2 },
        (run r.max (r.pend ++ bs)).1) := by
  simp [Reader.feed, h, run]

theorem stable_feed (r : Reader) (bs : Bytes) : Stable (r.feed bs).1 := by
  cases hd : r.dead with
  | true => rw [feed_dead hd]; exact .inl hd
  | false =>
    rw [feed_alive hd]
    cases hdead : (run r.max (r.pend ++ bs)).2.2 with
    | true => exact .inl rfl
    | false => exact .inr (run_left_need r.max (r.pend ++ bs) hdead)

theorem feed_nil (r : Reader) (h : Stable r) : r.feed [] = (r, []) := by
  cases hd : r.dead with
  | true => exact feed_dead hd []
  | false =>
    have hn : parse1 r.max r.pend = .need := h.resolve_left (by simp [hd])
    rw [feed_alive hd, List.append_nil, run_need hn, ← hd]

theorem feed_append (r : Reader) (a b : Bytes) :
    r.feed (a ++ b) = ((r.feed a).1.feed b |>.1, (r.feed a).2 ++ ((r.feed a).1.feed b).2) := by
  cases hd : r.dead with
  | true => simp [feed_dead hd]
  | false =>
    rw [feed_alive hd (a ++ b), feed_alive hd a, ← List.append_assoc, run_append]
    cases hdead : (run r.max (r.pend ++ a)).2.2 with
    | true => rw [if_pos rfl, feed_dead rfl, List.append_nil, hdead]
    | false => rw [if_neg Bool.false_ne_true, feed_alive rfl]

theorem feedAll_eq_feed (r : Reader) (hs : Stable r) (chunks : List Bytes) :
    r.feedAll chunks = r.feed chunks.flatten := by
  induction chunks generalizing r with
  | nil => simp [Reader.feedAll, feed_nil r hs]
  | cons c cs ih =>
    simp only [Reader.feedAll, List.flatten_cons]
    rw [feed_append, ih _ (stable_feed r c)]

theorem encodeMsg_length (ty : Nat) (body : Bytes) : (encodeMsg ty body).length = 19 + body.length := by
  simp only [encodeMsg, List.length_append, be16_length, List.length_cons, List.length_nil,
    show marker.length = 16 from rfl]

theorem encodeMsg_eq (ty : Nat) (body : Bytes) :
    encodeMsg ty body = marker ++ (be16 (19 + body.length) ++ (ty :: body)) := by
  simp [encodeMsg, headerLen]

theorem parse1_encode (max ty : Nat) (body rest : Bytes)
    (hmax : headerLen + body.length ≤ max) (h16 : max ≤ 65535)
    (hv : lengthValid ty (headerLen + body.length) = true) :
    parse1 max (encodeMsg ty body ++ rest) = .out (.msg ty body) rest := by
  simp only [headerLen] at hmax hv
  have hlen : hdrLen (encodeMsg ty body ++ rest) = 19 + body.length := by
    rw [encodeMsg_eq]
    exact rd16_be16 _ (by omega) _
  have hty : hdrTy (encodeMsg ty body ++ rest) = ty := by rw [encodeMsg_eq]; rfl
  have hmk : (encodeMsg ty body ++ rest).take 16 = marker := by rw [encodeMsg_eq]; rfl
  have herr : hdrErr max (encodeMsg ty body ++ rest) = none := by
    unfold hdrErr
    rw [hmk, hlen, hty, hv, headerLen, if_neg (by simp), if_neg (by omega), if_neg (by simp)]
  have hd19 : (encodeMsg ty body ++ rest).drop 19 = body ++ rest := by rw [encodeMsg_eq]; rfl
  refine parse1_msg_iff.2 ⟨by simp [encodeMsg_length]; omega, herr, by simp [hlen, encodeMsg_length], hty, ?_, ?_⟩
  · rw [hlen, hd19, Nat.add_sub_cancel_left, List.take_left' rfl]
  · rw [hlen, ← List.drop_drop, hd19, List.drop_left' rfl]

/-- A message acceptable on a session with maximum size `max`. -/
def ValidMsg (max : Nat) (m : Nat × Bytes) : Prop :=
  headerLen + m.2.length ≤ max ∧ lengthValid m.1 (headerLen + m.2.length) = true

def encodeAll (ms : List (Nat × Bytes)) : Bytes := (ms.map (fun m => encodeMsg m.1 m.2)).flatten

theorem run_encodeAll (max : Nat) (h16 : max ≤ 65535) (ms : List (Nat × Bytes)) (hv : ∀ m ∈ ms, ValidMsg max m)
    (tail : Bytes) :
    run max (encodeAll ms ++ tail) =
      (ms.map (fun m => Out.msg m.1 m.2) ++ (run max tail).1, (run max tail).2.1, (run max tail).2.2) := by
  induction ms with
  | nil => rfl
  | cons m rest ih =>
    obtain ⟨hm1, hm2⟩ := hv m List.mem_cons_self
    have henc : encodeAll (m :: rest) ++ tail = encodeMsg m.1 m.2 ++ (encodeAll rest ++ tail) := by
      simp [encodeAll, List.append_assoc]
    rw [henc, run_msg (parse1_encode max m.1 m.2 _ hm1 h16 hm2), ih fun x hx => hv x (List.mem_cons_of_mem _ hx)]
    rfl

theorem feed_init_encodeAll (max : Nat) (h16 : max ≤ 65535) (ms : List (Nat × Bytes))
    (hv : ∀ m ∈ ms, ValidMsg max m) (tail : Bytes) :
    (Reader.init max).feed (encodeAll ms ++ tail) =
      ({ max := max, pend := (run max tail).2.1, dead := (run max tail).2.2 },
        ms.map (fun m => Out.msg m.1 m.2) ++ (run max tail).1) := by
  rw [feed_alive rfl]
  simp only [Reader.init, List.nil_append, run_encodeAll max h16 ms hv tail]

end Exa.Frame
