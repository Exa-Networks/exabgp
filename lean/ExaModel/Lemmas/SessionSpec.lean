import ExaModel.Lemmas.SessionStep
/-!
# M-Session — which NOTIFICATION answers which fault (towards C10 `code_is_class`)
-/
namespace Exa.Session

/-- why a message handed to a coroutine reading in FSM state `st` ends the session per the RFCs;
    `none`: the state goes on with the message, or it is a NOTIFICATION (closed without reply).  Not covered: the
    second KEEPALIVE of a session with hold time 0 (`mainIter` answers it 2/6; `Cause.keepaliveHold0`). -/
def causeOf (st : Fsm) : Msg → Option Cause
  | .bad f => some (.fault f)
  | .operational => if st = .established then none else some (.unexpected .operational)
  | .notification => none
  | .openOk l => if st = .opensent then none else some (.unexpected (.openOk l))
  | .openSem e => if st = .opensent then some (.sem e) else some (.unexpected (.openSem e))
  | .keepalive => if st = .opensent then some (.unexpected .keepalive) else none
  | .update => if st = .established then none else some (.unexpected .update)
  | .refresh => if st = .established then none else some (.unexpected .refresh)

/-- what the model (= the code, by the correspondence) raises. -/
def modelCode (st : Fsm) : Msg → Nat × Nat
  | .bad f => raised f
  | .openSem e => if st = .opensent then semCode e else (5, fsmSub st)
  | _ => (5, fsmSub st)

theorem modelCode_in_class (st : Fsm) (m : Msg) (cause : Cause) (hc : causeOf st m = some cause) :
    modelCode st m ∈ errorClass cause st := by
  -- all but a malformed message, and an unacceptable OPEN read in OPENSENT, are "unexpected in this state"
  have unexp : ∀ m', some (Cause.unexpected m') = some cause → (5, fsmSub st) ∈ errorClass cause st := by
    rintro m' ⟨⟩; exact List.mem_cons_self
  cases m with
  | bad f =>
    -- a fault is answered the same way in every state; `errorClass` only adds alternatives outside one state
    simp only [causeOf, Option.some.injEq] at hc; subst hc
    cases f <;> simp only [modelCode, raised, errorClass] <;> (try split) <;> exact List.mem_cons_self
  | notification => cases hc
  | openSem e =>
    simp only [causeOf, modelCode] at hc ⊢
    split at hc
    · rename_i hs; cases hc; rw [if_pos hs]; cases e <;> exact List.mem_cons_self
    · rename_i hs; rw [if_neg hs]; exact unexp _ hc
  | keepalive =>
    simp only [causeOf] at hc
    split at hc
    · exact unexp _ hc
    · cases hc
  | operational | openOk _ | update | refresh =>
    simp only [causeOf] at hc
    split at hc
    · cases hc
    · exact unexp _ hc

/-- the writes on connection `c` in a list of outputs. -/
def sendsOn (c : Nat) (os : List Out) : List Kind :=
  os.filterMap fun o => match o with
    | .send c' k _ => if c' = c then some k else none
    | _ => none

theorem sendsOn_append (c : Nat) (a b : List Out) : sendsOn c (a ++ b) = sendsOn c a ++ sendsOn c b := by
  simp [sendsOn, List.filterMap_append]

theorem sendsOn_nil (c : Nat) : sendsOn c [] = [] := rfl
theorem sendsOn_send_self (c : Nat) (k : Kind) (st : Fsm) (os : List Out) :
    sendsOn c (Out.send c k st :: os) = k :: sendsOn c os := by simp [sendsOn]
theorem sendsOn_fsm (c : Nat) (a b : Fsm) (os : List Out) : sendsOn c (Out.fsm a b :: os) = sendsOn c os := rfl
theorem sendsOn_close (c d : Nat) (os : List Out) : sendsOn c (Out.close d :: os) = sendsOn c os := rfl
theorem sendsOn_got (c d : Nat) (os : List Out) : sendsOn c (Out.gotNotification d :: os) = sendsOn c os := rfl
theorem sendsOn_down (c : Nat) (os : List Out) : sendsOn c (Out.down :: os) = sendsOn c os := rfl

theorem sendsOn_downOut (c : Nat) (s : State) : sendsOn c (downOut s) = [] := by
  unfold downOut; split <;> rfl

theorem sendsOn_closeP (c : Nat) (s : State) : sendsOn c (closeP s).2 = [] := by
  have h1 : sendsOn c (if quietFsm s.fsm then [] else downOut s) = [] := by
    split
    · rfl
    · exact sendsOn_downOut c s
  rw [closeP_snd, sendsOn_append, sendsOn_append, h1]
  cases s.conn <;> rfl

/-- the ghost marker `onProcessError` leaves when what could not be forwarded was a NOTIFICATION. -/
def gotNote (m : Msg) (s : State) : List Out :=
  match m, s.conn with
  | .notification, some c => [Out.gotNotification c.id]
  | _, _ => []

theorem sendsOn_gotNote (c : Nat) (m : Msg) (s : State) : sendsOn c (gotNote m s) = [] := by
  unfold gotNote; split <;> rfl

theorem stopIfExhausted_snd (s : State) :
    (stopIfExhausted s).2 = if canReconnect s then [] else [Out.fsm s.fsm .idle] := by
  unfold stopIfExhausted stopP fsmTo
  split <;> simp

theorem stopIfExhausted_conn (s : State) : (stopIfExhausted s).1.conn = s.conn := by
  unfold stopIfExhausted stopP fsmTo
  split <;> rfl

theorem onNotify_outs (code sub : Nat) (s : State) (k : Conn) (hc : s.conn = some k) (hr : k.rst = false) :
    (onNotify code sub s).2 =
      [Out.send k.id (.notification code sub) s.fsm] ++ (if quietFsm s.fsm then [] else downOut s) ++
      [Out.fsm s.fsm .idle, Out.close k.id] ++ (if canReconnect s then [] else [Out.fsm .idle .idle]) := by
  simp only [onNotify, andThen_snd, andThen_fst, sendOn_ok hc hr, resetP_snd, closeP_snd, stopIfExhausted_snd, finish, resetP_fst,
    List.append_nil]
  simp [markSent, canReconnect, downOut]

theorem onNotify_sends (code sub : Nat) (s : State) (k : Conn) (hc : s.conn = some k) (hr : k.rst = false) :
    sendsOn k.id (onNotify code sub s).2 = [.notification code sub] ∧ Out.close k.id ∈ (onNotify code sub s).2 ∧
    (onNotify code sub s).1.conn = none := by
  refine ⟨?_, by rw [onNotify_outs code sub s k hc hr]; simp, by rw [onNotify_fst]⟩
  -- the write, then `_reset` and `stop`, which write nothing
  simp only [onNotify, andThen_snd, andThen_fst, sendOn_ok hc hr, resetP_snd, stopIfExhausted_snd, finish, sendsOn_append,
    sendsOn_closeP, sendsOn_send_self, sendsOn_nil, List.append_nil]
  split <;> rfl

/-- handing `m` to the API process raises `ProcessError` (the process is gone and `m` is forwarded). -/
def apiFails (m : Msg) (s : State) : Bool := s.cfg.forward && s.dead && forwardRaises m

theorem deliver_eq (m : Msg) (s : State) :
    deliver m s = if apiFails m s then onProcessError m s else deliverAlive m s := rfl

theorem Inv.reading {s : State} (h : Inv s) {c : Nat} {k : Conn} (haw : awaited s = some c) (hc : s.conn = some k)
    (hk : k.id = c) :
    (s.pc = .awaitOpen c ∧ s.fsm = .opensent) ∨ (s.pc = .awaitKa c ∧ s.fsm = .openconfirm) ∨
      (s.pc = .mainLoop c ∧ s.fsm = .established) := by
  cases hp : s.pc <;> simp [awaited, hp] at haw <;> subst haw
  · exact .inl ⟨rfl, (h.awaitOpen _ k hp hc hk).1⟩
  · exact .inr (.inl ⟨rfl, (h.awaitKa _ k hp hc hk).1⟩)
  · exact .inr (.inr ⟨rfl, (h.main _ k hp hc hk).1⟩)

/-- In each state that reads, `modelCode` is the NOTIFICATION of `deliverAlive`'s branch for every message but the
    two the state goes on with: a NOTIFICATION and the message it waits for.  OPENSENT: -/
theorem deliverAlive_opensent {s : State} {c : Nat} (hp : s.pc = .awaitOpen c) {m : Msg} {cause : Cause}
    (h : causeOf .opensent m = some cause) :
    deliverAlive m s = onNotify (modelCode .opensent m).1 (modelCode .opensent m).2 s := by
  unfold deliverAlive; rw [hp]
  cases m with
  | notification | openOk _ => cases h
  | _ => rfl

theorem deliverAlive_openconfirm {s : State} {c : Nat} (hp : s.pc = .awaitKa c) {m : Msg} {cause : Cause}
    (h : causeOf .openconfirm m = some cause) :
    deliverAlive m s = onNotify (modelCode .openconfirm m).1 (modelCode .openconfirm m).2 s := by
  unfold deliverAlive; rw [hp]
  cases m with
  | notification | keepalive => cases h
  | _ => rfl

/-- ESTABLISHED goes on with everything but a malformed message and an OPEN. -/
theorem deliverAlive_established {s : State} {c : Nat} (hp : s.pc = .mainLoop c) {m : Msg} {cause : Cause}
    (h : causeOf .established m = some cause) :
    deliverAlive m s = onNotify (modelCode .established m).1 (modelCode .established m).2 s := by
  unfold deliverAlive; rw [hp]
  cases m with
  | bad _ | openOk _ | openSem _ => rfl
  | _ => cases h

/-- the structural half of `code_is_class`: a message with a cause is answered by `onNotify`
    with `modelCode` — unless handing it to the API process already failed. -/
theorem deliver_eq_onNotify (m : Msg) (s : State) (hinv : Inv s) (c : Nat) (k : Conn)
    (haw : awaited s = some c) (hc : s.conn = some k) (hk : k.id = c) (cause : Cause)
    (hcause : causeOf s.fsm m = some cause) (hapi : apiFails m s = false) :
    deliver m s = onNotify (modelCode s.fsm m).1 (modelCode s.fsm m).2 s := by
  rw [deliver_eq, hapi, if_neg Bool.false_ne_true]
  rcases hinv.reading haw hc hk with ⟨hp, hf⟩ | ⟨hp, hf⟩ | ⟨hp, hf⟩ <;> rw [hf] at hcause ⊢
  · exact deliverAlive_opensent hp hcause
  · exact deliverAlive_openconfirm hp hcause
  · exact deliverAlive_established hp hcause

/-- ... and when it failed: `except ProcessError` of `_run` — nothing is written, the connection is closed. -/
theorem deliver_process_error (m : Msg) (s : State) (k : Conn) (hc : s.conn = some k) (hapi : apiFails m s = true) :
    sendsOn k.id (deliver m s).2 = [] ∧ Out.close k.id ∈ (deliver m s).2 ∧ (deliver m s).1.conn = none := by
  rw [deliver_eq, hapi, if_pos rfl]
  have ho : (onProcessError m s).2 = gotNote m s ++ (closeP s).2 := by
    simp only [onProcessError, onOther, finish, resetP_snd, gotNote, andThen_snd, List.append_nil]
    cases m <;> cases s.conn <;> rfl
  refine ⟨?_, ?_, ?_⟩
  · rw [ho, sendsOn_append, sendsOn_gotNote, sendsOn_closeP]; rfl
  · rw [ho, closeP_snd, hc]; simp
  · unfold onProcessError; rw [andThen_fst, onOther_fst]

/-- rows found in a table under their keys are rows of the table.  With `rfl` for `h` only keys are compared by
    evaluation; the other columns meet as literals (deciding equality of two strings goes character by character). -/
theorem forall_mem_of_find {α β : Type} [BEq β] (key : α → β) (T xs : List α)
    (h : xs.map (fun r => T.find? (fun x => key x == key r)) = xs.map some) : ∀ r ∈ xs, r ∈ T := by
  induction xs with
  | nil => simp
  | cons a as ih =>
    simp only [List.map_cons, List.cons.injEq] at h
    intro r hr
    rcases List.mem_cons.1 hr with rfl | hr
    · exact List.mem_of_find?_eq_some h.1
    · exact ih h.2 r hr

end Exa.Session
