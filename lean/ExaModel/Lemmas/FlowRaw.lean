import ExaModel.Model.Flow
/-! n-byte big-endian fields (`rdN (beN n v) = v` for `v < 256^n`), and the raw layer:
    `decodeOps`/`decodeComps` are sound and complete for the byte grammar (`encodeRaw` is their
    exact inverse on well-shaped component lists). -/
namespace Exa.Flow

/-- lets `decide` close concrete evaluations of the decoders -/
instance instDecEqExcept {ε α : Type} [DecidableEq ε] [DecidableEq α] : DecidableEq (Except ε α)
  | .ok a, .ok b => if h : a = b then isTrue (by rw [h]) else isFalse (by intro e; cases e; exact h rfl)
  | .error a, .error b => if h : a = b then isTrue (by rw [h]) else isFalse (by intro e; cases e; exact h rfl)
  | .ok _, .error _ => isFalse (by intro e; cases e)
  | .error _, .ok _ => isFalse (by intro e; cases e)

@[simp] theorem beN_length (n v : Nat) : (beN n v).length = n := by
  induction n with
  | zero => rfl
  | succ n ih => simp [beN, ih]

theorem wf_beN (n v : Nat) : WFBytes (beN n v) := by
  induction n with
  | zero => exact wfBytes_nil
  | succ n ih => exact wfBytes_cons (Nat.mod_lt _ (by omega)) ih

theorem foldl_rd (bs : Bytes) (acc : Nat) :
    bs.foldl (fun acc b => acc * 256 + b) acc = acc * 256 ^ bs.length + rdN bs := by
  induction bs generalizing acc with
  | nil => simp [rdN]
  | cons b t ih =>
    simp only [List.foldl_cons, rdN, List.length_cons]
    rw [ih, ih (0 * 256 + b)]
    simp only [rdN, Nat.pow_succ]
    rw [Nat.add_mul, Nat.mul_assoc, Nat.mul_comm 256]
    simp [Nat.add_assoc]

theorem rdN_cons (b : Nat) (t : Bytes) : rdN (b :: t) = b * 256 ^ t.length + rdN t := by
  simp only [rdN, List.foldl_cons]
  rw [foldl_rd]; simp [rdN]

theorem rdN_beN (n v : Nat) : rdN (beN n v) = v % 256 ^ n := by
  induction n with
  | zero => simp [beN, rdN, Nat.mod_one]
  | succ n ih =>
    simp only [beN]
    rw [rdN_cons, ih, beN_length, Nat.mod_pow_succ]
    rw [Nat.mul_comm, Nat.add_comm]

theorem rdN_beN_lt {n v : Nat} (h : v < 256 ^ n) : rdN (beN n v) = v := by
  rw [rdN_beN, Nat.mod_eq_of_lt h]

theorem rdN_lt (bs : Bytes) (h : WFBytes bs) : rdN bs < 256 ^ bs.length := by
  induction bs with
  | nil => simp [rdN]
  | cons b t ih =>
    rw [rdN_cons]
    have hb : b < 256 := h b List.mem_cons_self
    have ht := ih (fun x hx => h x (List.mem_cons_of_mem _ hx))
    simp only [List.length_cons, Nat.pow_succ]
    have : b * 256 ^ t.length ≤ 255 * 256 ^ t.length := Nat.mul_le_mul_right _ (by omega)
    omega

/-- `d` is the weight of the bit read; the modulus is written `d * (2 * k)`, a multiple of `2 * d` -/
theorem bit_mod (x d k : Nat) : x % (d * (2 * k)) / d % 2 = x / d % 2 := by
  rw [Nat.mod_mul_right_div_self, Nat.mod_mod_of_dvd _ (Nat.dvd_mul_right 2 k)]

theorem bit_add (a r d k : Nat) (hd : 0 < d) : (a * (d * (2 * k)) + r) / d % 2 = r / d % 2 := by
  rw [Nat.mul_comm a, Nat.mul_assoc, Nat.mul_add_div hd, Nat.mul_assoc, Nat.mul_add_mod]

theorem mod2_mod (x k : Nat) : x % (2 * k) % 2 = x % 2 := Nat.mod_mod_of_dvd _ (Nat.dvd_mul_right 2 k)

theorem mod2_add (a r k : Nat) : (a * (2 * k) + r) % 2 = r % 2 := by
  rw [Nat.mul_comm a, Nat.mul_assoc, Nat.mul_add_mod]

theorem top_bit (a r m : Nat) (ha : a < 2) (hr : r < m) : (a * m + r) / m % 2 = a := by
  rw [Nat.mul_comm, Nat.mul_add_div (Nat.zero_lt_of_lt hr), Nat.div_eq_of_lt hr, Nat.add_zero, Nat.mod_eq_of_lt ha]

/-- the `{op, value}` list of one component: every value has the announced width, the
    end-of-list bit is on the last pair and on no other -/
def TermsShape : List RawTerm → Prop
  | [] => False
  | [t] => opEol t.op = true ∧ t.val.length = opWidth t.op
  | t :: t' :: ts => opEol t.op = false ∧ t.val.length = opWidth t.op ∧ TermsShape (t' :: ts)

/-- a complete component of a type the family defines -/
def CompShape (v6 : Bool) (p6bits : Nat → Nat → Option Nat) : RawComp → Prop
  | .prefix4 ty len bs => v6 = false ∧ kindOf v6 ty = some .prefix ∧ len ≤ 32 ∧ bs.length = patBytes len
  | .prefix6 ty len off bs =>
    v6 = true ∧ kindOf v6 ty = some .prefix ∧ ∃ bits, p6bits len off = some bits ∧ bs.length = patBytes bits
  | .ops ty ts => (kindOf v6 ty = some .numeric ∨ kindOf v6 ty = some .bitmask) ∧ TermsShape ts

/-- all pairs complete and none carries the end-of-list bit -/
def TermsOpen : List RawTerm → Prop
  | [] => True
  | t :: ts => opEol t.op = false ∧ t.val.length = opWidth t.op ∧ TermsOpen ts

theorem TermsShape.cons {t : RawTerm} {ts : List RawTerm} (heol : opEol t.op = false)
    (hw : t.val.length = opWidth t.op) (h : TermsShape ts) : TermsShape (t :: ts) := by
  cases ts with
  | nil => exact h.elim
  | cons _ _ => exact ⟨heol, hw, h⟩

theorem encodeRaw_cons (c : RawComp) (cs : List RawComp) : encodeRaw (c :: cs) = encodeRawComp c ++ encodeRaw cs := by
  simp [encodeRaw]

theorem take_drop_left {v : Bytes} {n : Nat} (h : v.length = n) (rest : Bytes) :
    (v ++ rest).take n = v ∧ (v ++ rest).drop n = rest := by
  subst h; exact ⟨List.take_left, List.drop_left⟩

theorem decodeOps_sound (fuel : Nat) (bs : Bytes) (ts : List RawTerm) (rest : Bytes)
    (h : decodeOps fuel bs = .ok (ts, rest)) :
    bs = ts.flatMap encodeRawTerm ++ rest ∧ TermsShape ts := by
  fun_induction decodeOps fuel bs generalizing ts rest with
  | case4 f b r hlen t heol =>  -- the pair with the end-of-list bit
    cases h
    exact ⟨by simp [encodeRawTerm, t], heol, by simp only [t, List.length_take]; omega⟩
  | case5 f b r hlen t heol ts' r' hrec ih =>  -- a pair without it, and what follows reads
    cases h
    obtain ⟨e1, e2⟩ := ih _ _ hrec
    refine ⟨?_, .cons (by simpa using heol) (by simp only [t, List.length_take]; omega) e2⟩
    rw [List.flatMap_cons, List.append_assoc, ← e1]
    simp [encodeRawTerm, t]
  | _ => cases h  -- every other branch is an error

theorem decodeComps_sound (v6 : Bool) (p6bits : Nat → Nat → Option Nat) (fuel : Nat) (bs : Bytes)
    (cs : List RawComp) (h : decodeComps v6 p6bits fuel bs = .ok cs) :
    bs = encodeRaw cs ∧ ∀ c ∈ cs, CompShape v6 p6bits c := by
  fun_induction decodeComps v6 p6bits fuel bs generalizing cs with
  | case2 => cases h; exact ⟨rfl, nofun⟩
  | case6 f t hk hv6 len off r2 bits hbits hlen cs' hrec ih =>  -- an IPv6 prefix
    cases h
    obtain ⟨e1, e2⟩ := ih _ hrec
    refine ⟨?_, List.forall_mem_cons.2 ⟨⟨hv6, hk, bits, hbits, ?_⟩, e2⟩⟩
    · rw [encodeRaw_cons, ← e1]; simp [encodeRawComp]
    · simp only [List.length_take]; omega
  | case11 f t hk hv6 len r2 hle hlen cs' hrec ih =>  -- an IPv4 prefix
    cases h
    obtain ⟨e1, e2⟩ := ih _ hrec
    refine ⟨?_, List.forall_mem_cons.2 ⟨⟨by simpa using hv6, hk, by omega, ?_⟩, e2⟩⟩
    · rw [encodeRaw_cons, ← e1]; simp [encodeRawComp]
    · simp only [List.length_take]; omega
  | case15 f t rest k hnp hk ts r hops cs' hrec ih =>  -- an operator component
    cases h
    obtain ⟨e1, e2⟩ := ih _ hrec
    obtain ⟨o1, o2⟩ := decodeOps_sound _ _ _ _ hops
    refine ⟨?_, List.forall_mem_cons.2 ⟨⟨?_, o2⟩, e2⟩⟩
    · rw [encodeRaw_cons, ← e1, o1]; simp [encodeRawComp]
    · cases k with
      | «prefix» => exact (hnp rfl).elim
      | numeric => exact .inl hk
      | bitmask => exact .inr hk
  | _ => cases h

/-- positive fuel is a successor; `h` has the shape in which the readers' callers know it (fuel above the
    buffer length `n`) -/
theorem exists_fuel {n fuel : Nat} (h : n < fuel) : ∃ f, fuel = f + 1 := ⟨fuel - 1, by omega⟩

theorem decodeOps_term (t : RawTerm) (hw : t.val.length = opWidth t.op) (f : Nat) (rest : Bytes) :
    decodeOps (f + 1) (encodeRawTerm t ++ rest) =
      if opEol t.op then .ok ([t], rest) else (decodeOps f rest).map (fun p => (t :: p.1, p.2)) := by
  obtain ⟨ht, hd⟩ := take_drop_left hw rest
  simp only [encodeRawTerm, List.cons_append, decodeOps, ht, hd]
  rw [if_neg (by simp only [List.length_append]; omega)]
  cases decodeOps f rest <;> rfl

theorem decodeOps_complete (ts : List RawTerm) (rest : Bytes) (fuel : Nat)
    (hs : TermsShape ts) (hf : (ts.flatMap encodeRawTerm ++ rest).length < fuel) :
    decodeOps fuel (ts.flatMap encodeRawTerm ++ rest) = .ok (ts, rest) := by
  induction ts generalizing fuel with
  | nil => exact hs.elim
  | cons t ts ih =>
    obtain ⟨f, rfl⟩ := exists_fuel hf
    rw [List.flatMap_cons, List.append_assoc] at hf ⊢
    cases ts with
    | nil => rw [decodeOps_term t hs.2, if_pos hs.1]; rfl
    | cons t' ts' =>
      obtain ⟨heol, hw, hrest⟩ := hs
      rw [decodeOps_term t hw, if_neg (by simp [heol]), ih f hrest (by simp only [encodeRawTerm, List.length_append, List.length_cons] at hf ⊢; omega)]
      rfl

theorem decodeOps_open_error (ts : List RawTerm) (tail : Bytes) (e : Err) (fuel : Nat)
    (hs : TermsOpen ts) (hf : (ts.flatMap encodeRawTerm ++ tail).length < fuel)
    (ht : ∀ f, tail.length < f → decodeOps f tail = .error e) :
    decodeOps fuel (ts.flatMap encodeRawTerm ++ tail) = .error e := by
  induction ts generalizing fuel with
  | nil => exact ht fuel hf
  | cons t ts ih =>
    obtain ⟨f, rfl⟩ := exists_fuel hf
    obtain ⟨heol, hw, hrest⟩ := hs
    rw [List.flatMap_cons, List.append_assoc] at hf ⊢
    rw [decodeOps_term t hw, if_neg (by simp [heol]), ih f hrest (by simp only [encodeRawTerm, List.length_append, List.length_cons] at hf ⊢; omega)]
    rfl

theorem decodeOps_short (op : Nat) (val : Bytes) (h : val.length < opWidth op) (f : Nat) (hf : (op :: val).length < f) :
    decodeOps f (op :: val) = .error .valueShort := by
  obtain ⟨f, rfl⟩ := exists_fuel hf
  simp [decodeOps, h]

theorem decodeOps_nil (f : Nat) (hf : ([] : Bytes).length < f) : decodeOps f [] = .error .noEol := by
  obtain ⟨f, rfl⟩ := exists_fuel hf
  rfl

theorem decodeComps_ops (v6 : Bool) (p6bits : Nat → Nat → Option Nat) (ty : Nat)
    (hk : kindOf v6 ty = some .numeric ∨ kindOf v6 ty = some .bitmask) (f : Nat) (rest : Bytes) :
    decodeComps v6 p6bits (f + 1) (ty :: rest) =
      match decodeOps f rest with
      | .error e => .error e
      | .ok (ts, r) =>
        match decodeComps v6 p6bits f r with
        | .ok cs => .ok (.ops ty ts :: cs)
        | .error e => .error e := by
  rcases hk with hk | hk <;> simp only [decodeComps, hk] <;> rfl

theorem decodeComps_comp (v6 : Bool) (p6bits : Nat → Nat → Option Nat) (c : RawComp) (hc : CompShape v6 p6bits c)
    (f : Nat) (rest : Bytes) (hf : (encodeRawComp c ++ rest).length ≤ f) :
    decodeComps v6 p6bits (f + 1) (encodeRawComp c ++ rest) = (decodeComps v6 p6bits f rest).map (c :: ·) := by
  cases c with
  | prefix4 ty len bs =>
    obtain ⟨rfl, hk, hle, hlen⟩ := hc
    obtain ⟨ht, hd⟩ := take_drop_left hlen rest
    simp only [encodeRawComp, List.cons_append, decodeComps, hk, Bool.false_eq_true, if_false, ht, hd]
    rw [if_neg (by omega), if_neg (by simp only [List.length_append]; omega)]
    cases decodeComps false p6bits f rest <;> rfl
  | prefix6 ty len off bs =>
    obtain ⟨rfl, hk, bits, hb, hlen⟩ := hc
    obtain ⟨ht, hd⟩ := take_drop_left hlen rest
    simp only [encodeRawComp, List.cons_append, decodeComps, hk, if_true, hb, ht, hd]
    rw [if_neg (by simp only [List.length_append]; omega)]
    cases decodeComps true p6bits f rest <;> rfl
  | ops ty ts =>
    have hops := decodeOps_complete ts rest f hc.2
      (by simp only [encodeRawComp, List.length_cons, List.length_append] at hf ⊢; omega)
    simp only [encodeRawComp, List.cons_append, decodeComps_ops v6 p6bits ty hc.1, hops]
    cases decodeComps v6 p6bits f rest <;> rfl

/-- `ht` gives the outcome on `tail` at every sufficient fuel: how much is left when the reader gets
    there depends on `pre` -/
theorem decodeComps_append (v6 : Bool) (p6bits : Nat → Nat → Option Nat) (pre : List RawComp) (tail : Bytes)
    (res : Except Err (List RawComp)) (hs : ∀ c ∈ pre, CompShape v6 p6bits c)
    (ht : ∀ f, tail.length < f → decodeComps v6 p6bits f tail = res)
    (fuel : Nat) (hf : (encodeRaw pre ++ tail).length < fuel) :
    decodeComps v6 p6bits fuel (encodeRaw pre ++ tail) = res.map (pre ++ ·) := by
  induction pre generalizing fuel with
  | nil => rw [show encodeRaw [] ++ tail = tail from rfl] at hf ⊢; rw [ht fuel hf]; cases res <;> rfl
  | cons c cs ih =>
    obtain ⟨f, rfl⟩ := exists_fuel hf
    have hpos : 0 < (encodeRawComp c).length := by cases c <;> simp [encodeRawComp]
    rw [encodeRaw_cons, List.append_assoc] at hf ⊢
    rw [decodeComps_comp v6 p6bits c (hs c List.mem_cons_self) f _ (by omega),
      ih (fun x hx => hs x (List.mem_cons_of_mem _ hx)) f (by simp only [List.length_append] at hf ⊢; omega)]
    cases res <;> rfl

theorem decodeComps_complete (v6 : Bool) (p6bits : Nat → Nat → Option Nat) (cs : List RawComp) (fuel : Nat)
    (hs : ∀ c ∈ cs, CompShape v6 p6bits c) (hf : (encodeRaw cs).length < fuel) :
    decodeComps v6 p6bits fuel (encodeRaw cs) = .ok cs := by
  have := decodeComps_append v6 p6bits cs [] (.ok []) hs
    (fun f hf => by obtain ⟨f, rfl⟩ := exists_fuel hf; rfl) fuel (by simpa using hf)
  simpa [Except.map] using this

theorem decodeComps_undefined (v6 : Bool) (p6bits : Nat → Nat → Option Nat) (t : Nat) (tail : Bytes)
    (h : kindOf v6 t = none) (f : Nat) (hf : (t :: tail).length < f) :
    decodeComps v6 p6bits f (t :: tail) = .error .undefinedType := by
  obtain ⟨f, rfl⟩ := exists_fuel hf
  simp only [decodeComps, h]

theorem decodeComps_open_ops (v6 : Bool) (p6bits : Nat → Nat → Option Nat) (ty : Nat) (ts : List RawTerm)
    (tail : Bytes) (e : Err) (hk : kindOf v6 ty = some .numeric ∨ kindOf v6 ty = some .bitmask) (hs : TermsOpen ts)
    (ht : ∀ f, tail.length < f → decodeOps f tail = .error e) (f : Nat)
    (hf : (ty :: (ts.flatMap encodeRawTerm ++ tail)).length < f) :
    decodeComps v6 p6bits f (ty :: (ts.flatMap encodeRawTerm ++ tail)) = .error e := by
  obtain ⟨f, rfl⟩ := exists_fuel hf
  rw [decodeComps_ops v6 p6bits ty hk, decodeOps_open_error ts tail e f hs (by simpa using hf) ht]

end Exa.Flow
