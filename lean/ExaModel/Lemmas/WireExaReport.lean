import ExaModel.Lemmas.WireExaFind
import ExaModel.Lemmas.WireMerge
/-!
  M-Wire-Exa: what each slot of the packing loop holds in terms of what the operator wrote (`firstOf`), the
  negotiated view of the AS numbers on a session that can exist, and what M-Wire's canonical report says, type
  code by type code, about the attribute block ExaBGP writes (optionally followed by the MP_REACH_NLRI
  attribute), including the RFC 6793 reconstruction of AS_PATH and AGGREGATOR on a 2-octet session.
-/
namespace Exa.WireExa
open Exa Exa.Wire
open Exa.Generated.ExaEncTable

theorem WFSess.msgSize_le {p : SessParams} (h : WFSess p) : p.msgSize ≤ 65535 := h.2.2.2.2.2.1

theorem WFSess.linkLocal_len {p : SessParams} (h : WFSess p) {ll : Bytes} (hl : p.linkLocal = some ll) :
    ll.length = 16 :=
  h.2.2.2.2.2.2.2.2.2.2 ll hl

theorem negLocalAs_eq (p : SessParams) (h : WFSess p) : negLocalAs p = p.localAs := by
  fun_cases negLocalAs p
  case case2 hs hb => exact absurd (h.2.2.2.1 hb) hs
  all_goals rfl

theorem sameAs_eq (p : SessParams) (h : WFSess p) : sameAs p = ibgp p := by
  have hl := negLocalAs_eq p h
  obtain ⟨_, h23, _, hbig, hpeer, _⟩ := h
  unfold sameAs ibgp
  rw [hl]
  fun_cases negPeerAs p
  case case2 hp h4 =>
    -- AS_TRANS stands for the peer. Our AS is neither: it fits two octets, else 4-octet AS numbers were negotiated
    have hsmall : ¬ p.localAs > 65535 := fun hb => h4 (hpeer hp (hbig hb))
    have e1 : (p.localAs == exaAsTrans) = false := beq_false_of_ne h23
    have e2 : (p.localAs == p.peerAs) = false := beq_false_of_ne (by simp only [asnMax2] at hp; omega)
    rw [e1, e2]
  all_goals rfl

theorem defaultPath_eq (p : SessParams) (h : WFSess p) :
    defaultPath p = if ibgp p then [] else [(2, [p.localAs])] := by
  unfold defaultPath
  rw [sameAs_eq p h, negLocalAs_eq p h]

theorem extAll_nil_of_none (as : List ReqAttr) (h : firstOf as 16 = none) : extAll as = [] := by
  fun_induction extAll as
  case case1 => rfl
  case case2 => cases h
  case case3 a t _ ih =>
    unfold firstOf at h ih
    rw [List.find?_cons] at h
    split at h
    · cases h
    · exact ih h

theorem given_none {as : List ReqAttr} {c : Nat} (hf : firstOf as c = none) : given as c = none := by
  unfold given
  by_cases h : c = 16
  · subst h; rw [if_pos rfl, hf]
  · rw [if_neg h, hf]; rfl

theorem given_first {as : List ReqAttr} {a : ReqAttr} (hf : firstOf as a.code = some a) :
    given as a.code =
      some (if a.code = 16 then .extCommunities (sortBy key2 (extAll as)) else normAttr a) := by
  unfold given
  by_cases h : a.code = 16
  · rw [if_pos h, if_pos h, ← h, hf]
  · rw [if_neg h, if_neg h, hf]; rfl

section
variable (p : SessParams) (r : RouteReq) (nh : Bytes)

theorem semCode_none {c : Nat} (h3 : c ≠ 3) (hf : firstOf r.attrs c = none) :
    semCode p r nh c =
      if c = 1 then [mk (paramsOf p) false true (.origin 0)]
      else if c = 2 then semAsPath p (defaultPath p)
      else if c = 5 then (if sameAs p then [mk (paramsOf p) false true (.localPref 100)] else [])
      else [] := by
  unfold semCode; rw [if_neg h3, given_none hf]

theorem semCode_first {a : ReqAttr} (hf : firstOf r.attrs a.code = some a) :
    semCode p r nh a.code = if a.code = 5 && !(sameAs p) then []
      else semGiven p (if a.code = 16 then .extCommunities (sortBy key2 (extAll r.attrs)) else normAttr a) := by
  unfold semCode; rw [if_neg (by cases a <;> exact of_decide_eq_false rfl), given_first hf]

theorem semCode_nextHop :
    semCode p r nh 3 = if nh.length = 4 then [mk (paramsOf p) false true (.nextHop (rd32 nh))] else [] := by
  unfold semCode; rw [if_pos rfl]

/-- The keyword behind each of the type codes whose slot is read through a view of the request. -/
theorem code_inv {a : ReqAttr} {c : Nat} (h : a.code = c) :
    match c with
    | 1 => ∃ v, a = .origin v
    | 2 => ∃ s, a = .asPath s
    | 5 => ∃ v, a = .localPref v
    | 7 => ∃ x i, a = .aggregator x i
    | 16 => ∃ cs, a = .extCommunities cs
    | _ => True := by
  subst h
  cases a with
  | origin v => exact ⟨v, rfl⟩
  | asPath s => exact ⟨s, rfl⟩
  | localPref v => exact ⟨v, rfl⟩
  | aggregator x i => exact ⟨x, i, rfl⟩
  | extCommunities cs => exact ⟨cs, rfl⟩
  | _ => exact True.intro

theorem semCode_origin : semCode p r nh 1 = [mk (paramsOf p) false true (.origin (wantOrigin r))] := by
  unfold wantOrigin
  cases hf : firstOf r.attrs 1 with
  | none => rw [semCode_none p r nh (by decide) hf]; rfl
  | some a =>
    obtain ⟨v, rfl⟩ := code_inv (firstOf_code _ _ _ hf)
    exact semCode_first p r nh (a := .origin v) hf

/-- The path ExaBGP packs: the one written, else its default. -/
def modelPath (p : SessParams) (r : RouteReq) : List Seg :=
  match firstOf r.attrs 2 with
  | some (.asPath s) => s
  | _ => defaultPath p

theorem semCode_asPath : semCode p r nh 2 = semAsPath p (modelPath p r) := by
  unfold modelPath
  cases hf : firstOf r.attrs 2 with
  | none => rw [semCode_none p r nh (by decide) hf]; rfl
  | some a =>
    obtain ⟨s, rfl⟩ := code_inv (firstOf_code _ _ _ hf)
    exact semCode_first p r nh (a := .asPath s) hf

theorem semCode_localPref :
    semCode p r nh 5 = if sameAs p then [mk (paramsOf p) false true (.localPref (wantLocalPref r))] else [] := by
  unfold wantLocalPref
  cases hf : firstOf r.attrs 5 with
  | none => rw [semCode_none p r nh (by decide) hf]; rfl
  | some a =>
    obtain ⟨v, rfl⟩ := code_inv (firstOf_code _ _ _ hf)
    exact (semCode_first p r nh (a := .localPref v) hf).trans (by cases sameAs p <;> rfl)

/-- The aggregator as written, if any. -/
def wantAgg (r : RouteReq) : Option (Nat × Nat) :=
  match firstOf r.attrs 7 with
  | some (.aggregator a i) => some (a, i)
  | _ => none

theorem semCode_aggregator : semCode p r nh 7 = match wantAgg r with | some (a, i) => semAggregator p a i | none => [] := by
  unfold wantAgg
  cases hf : firstOf r.attrs 7 with
  | none => rw [semCode_none p r nh (by decide) hf]; rfl
  | some a =>
    obtain ⟨x, i, rfl⟩ := code_inv (firstOf_code _ _ _ hf)
    exact semCode_first p r nh (a := .aggregator x i) hf

theorem want7 : want p r 7 = (wantAgg r).map (fun x => .aggregator x.1 x.2) := by
  unfold want wantAgg
  cases firstOf r.attrs 7 with
  | none => rfl
  | some b => cases b <;> rfl

theorem semCode_extCommunities : semCode p r nh 16 = semGiven p (.extCommunities (sortBy key2 (extAll r.attrs))) := by
  cases hf : firstOf r.attrs 16 with
  | none => rw [semCode_none p r nh (by decide) hf, extAll_nil_of_none _ hf]; rfl
  | some a =>
    obtain ⟨cs, rfl⟩ := code_inv (firstOf_code _ _ _ hf)
    exact semCode_first p r nh (a := .extCommunities cs) hf

end

/-- What may follow the block: nothing, or MP_REACH_NLRI attributes. -/
def IsTail (tail : List Attr) : Prop := ∀ x ∈ tail, ∃ afi safi nhb ns, x.val = .mpReach afi safi nhb ns

theorem repAt_tail (P : Params) (as : List Attr) (c : Nat) (tail : List Attr) (h : IsTail tail) :
    ∀ x ∈ tail, repAt (reportVal P as) c x = none := by
  intro x hx
  obtain ⟨afi, safi, nhb, ns, e⟩ := h x hx
  simp [repAt, reportVal, e]

theorem tail_code (tail : List Attr) (h : IsTail tail) : ∀ x ∈ tail, x.code = 14 := by
  intro x hx
  obtain ⟨afi, safi, nhb, ns, e⟩ := h x hx
  simp [Attr.code, e, AttrVal.code]

theorem transAsn_id (a : Nat) (h : isBig a = false) : transAsn a = a := by simp [transAsn, h]

theorem map_transAsn_id (l : List Nat) (h : l.any isBig = false) : l.map transAsn = l :=
  (List.map_congr_left fun a ha => transAsn_id a (Bool.eq_false_iff.2 (List.any_eq_false.1 h a ha))).trans
    (List.map_id l)

theorem transSegs_id (segs : List Seg) (h : hasBig segs = false) : transSegs segs = segs :=
  (List.map_congr_left fun s hs =>
    congrArg (Prod.mk s.1) (map_transAsn_id s.2 (Bool.eq_false_iff.2 (List.any_eq_false.1 h s hs)))).trans
    (List.map_id segs)

theorem pathCount_transSegs (segs : List Seg) : pathCount (transSegs segs) = pathCount segs := by
  induction segs with
  | nil => rfl
  | cons s t ih =>
    simp only [transSegs, List.map_cons, pathCount] at ih ⊢
    rw [ih]
    simp [segCount]

theorem takeUnits_zero (l : List Seg) (h : ∀ s ∈ l, (s.1 = 1 ∨ s.1 = 2) ∧ 1 ≤ s.2.length) : takeUnits 0 l = [] := by
  cases l with
  | nil => rfl
  | cons s t =>
    have hs := h s (by simp)
    unfold takeUnits
    rcases hs.1 with h1 | h2
    · simp [h1]
    · have c : ¬ s.2.length ≤ 0 := by omega
      simp [h2, c]

/-- A confederation segment counts for nothing and is taken with what precedes the cut (RFC 6793 §4.2.3). -/
theorem takeUnits_confed_prefix (c rest : List Seg) (k : Nat) (hc : ∀ s ∈ c, s.1 ≠ 1 ∧ s.1 ≠ 2) :
    takeUnits k (c ++ rest) = c ++ takeUnits k rest := by
  induction c with
  | nil => rfl
  | cons s t ih =>
    have hs := hc s (by simp)
    have ht := ih (fun x hx => hc x (List.mem_cons_of_mem _ hx))
    simp only [List.cons_append]
    rw [takeUnits]
    simp [hs.1, hs.2, ht]

theorem pathCount_of_confed (c : List Seg) (hc : ∀ s ∈ c, s.1 ≠ 1 ∧ s.1 ≠ 2) : pathCount c = 0 := by
  induction c with
  | nil => rfl
  | cons s t ih =>
    have hs := hc s (by simp)
    simp [pathCount, segCount, hs.1, hs.2, ih (fun x hx => hc x (List.mem_cons_of_mem _ hx))]

theorem plainSegs_confed_append (c p : List Seg) (hc : ∀ s ∈ c, s.1 ≠ 1 ∧ s.1 ≠ 2) (hp : ∀ s ∈ p, s.1 = 1 ∨ s.1 = 2) :
    plainSegs (c ++ p) = p := by
  unfold plainSegs
  rw [List.filter_append]
  have e1 : c.filter (fun s => s.1 == 1 || s.1 == 2) = [] := by
    apply List.filter_eq_nil_iff.2
    intro s hs
    have := hc s hs
    simp [this.1, this.2]
  have e2 : p.filter (fun s => s.1 == 1 || s.1 == 2) = p := by
    apply List.filter_eq_self.2
    intro s hs
    rcases hp s hs with h | h <;> simp [h]
  rw [e1, e2]; rfl

/-- **What a 2-octet session carries of a path with confederation segments** (RFC 5065: they lead the path).
    The sender writes AS_PATH with AS_TRANS for every AS number above 65535 and AS4_PATH with the AS_SEQUENCE /
    AS_SET segments only (RFC 6793 §3); the receiver's reconstruction gives the confederation segments as they
    travelled (members above 65535 as AS_TRANS: nothing carries them) followed by the true AS_SEQUENCE / AS_SET
    segments. -/
theorem merge_trans_confed (c p : List Seg) (hc : ∀ s ∈ c, s.1 ≠ 1 ∧ s.1 ≠ 2)
    (hp : ∀ s ∈ p, (s.1 = 1 ∨ s.1 = 2) ∧ 1 ≤ s.2.length) :
    merge6793 (transSegs (c ++ p)) (plainSegs (c ++ p)) = transSegs c ++ p := by
  have hpl : plainSegs (c ++ p) = p := plainSegs_confed_append c p hc (fun s hs => (hp s hs).1)
  have hpp : plainSegs p = p := plainSegs_confed_append [] p (List.forall_mem_nil _) (fun s hs => (hp s hs).1)
  have hcT : ∀ s ∈ transSegs c, s.1 ≠ 1 ∧ s.1 ≠ 2 := forall_transSegs (P := fun t _ => t ≠ 1 ∧ t ≠ 2) c hc
  have hpT : ∀ s ∈ transSegs p, (s.1 = 1 ∨ s.1 = 2) ∧ 1 ≤ s.2.length :=
    forall_transSegs (P := fun t n => (t = 1 ∨ t = 2) ∧ 1 ≤ n) p hp
  have hsplit : transSegs (c ++ p) = transSegs c ++ transSegs p := by simp [transSegs]
  unfold merge6793
  rw [hpl, hpp, pathCount_transSegs, pathCount_append, pathCount_of_confed c hc]
  simp only [Nat.zero_add, Nat.lt_irrefl, if_false, Nat.sub_self]
  rw [hsplit, takeUnits_confed_prefix _ _ _ hcT, takeUnits_zero _ hpT]
  simp

/-- The receiver's reconstruction (RFC 6793 §4.2.3) of AS_PATH with AS_TRANS + AS4_PATH is the true path. -/
theorem merge_trans (segs : List Seg) (h : PathOk segs) : merge6793 (transSegs segs) segs = segs := by
  have := merge_trans_confed [] segs (List.forall_mem_nil _) fun s hs => ⟨(h s hs).1, (h s hs).2.1⟩
  rwa [List.nil_append, plainSegs_of_PathOk segs h] at this

section
variable (p : SessParams) (r : RouteReq) (nh : Bytes) (tail : List Attr)

theorem find_block {β : Type} (ht : IsTail tail) (g : Attr → Option β) (c : Nat)
    (hg : ∀ a, a.code ≠ c → g a = none) (hc : c ≠ 14) (hk : slotOf c ∈ codeOrder) :
    (semAll p r nh ++ tail).findSome? g = (semCode p r nh (slotOf c)).findSome? g := by
  rw [findSome_append_tail _ _ _ (fun x hx => hg x (by rw [tail_code tail ht x hx]; exact Ne.symm hc)),
    find_semAll_slot p r nh g c hg hk]

theorem as4_semAsPath (s : List Seg) :
    (semAsPath p s).findSome? gAs4 =
      if p.asn4 then none else if hasBig (plainSegs s) then some (plainSegs s) else none := by
  unfold semAsPath
  cases p.asn4
  · cases hasBig (plainSegs s) <;> rfl
  · rfl

theorem raw2_semAsPath (s : List Seg) :
    (semAsPath p s).findSome? (gRaw 2) = some (.asPath (if p.asn4 then s else transSegs s)) := by
  unfold semAsPath
  cases p.asn4 <;> rfl

theorem raw17_semAsPath (s : List Seg) :
    (semAsPath p s).findSome? (gRaw 17) =
      if p.asn4 then none else if hasBig (plainSegs s) then some (.as4Path (plainSegs s)) else none := by
  unfold semAsPath
  cases p.asn4
  · cases hasBig (plainSegs s) <;> rfl
  · rfl

theorem agg4_semAggregator (a i : Nat) :
    (semAggregator p a i).findSome? gAgg4 = if !p.asn4 && isBig a then some (a, i) else none := by
  unfold semAggregator
  cases p.asn4
  · cases isBig a <;> rfl
  · rfl

theorem agg_semAggregator (a i : Nat) :
    (semAggregator p a i).findSome? gAgg = some (if !p.asn4 && isBig a then exaAsTrans else a, i) := by
  unfold semAggregator
  cases p.asn4
  · cases isBig a <;> rfl
  · rfl

theorem findAs4Path_block (ht : IsTail tail) :
    findAs4Path (semAll p r nh ++ tail) =
      if p.asn4 then none
      else if hasBig (plainSegs (modelPath p r)) then some (plainSegs (modelPath p r)) else none := by
  rw [findAs4Path_eq, find_block p r nh tail ht gAs4 17 gAs4_none (by decide) (by decide)]
  exact (congrArg _ (semCode_asPath p r nh)).trans (as4_semAsPath p _)

theorem findAgg4_block (ht : IsTail tail) :
    findAgg4 (semAll p r nh ++ tail) = match wantAgg r with
      | some (a, i) => if !p.asn4 && isBig a then some (a, i) else none
      | none => none := by
  rw [findAgg4_eq, find_block p r nh tail ht gAgg4 18 gAgg4_none (by decide) (by decide)]
  refine (congrArg _ (semCode_aggregator p r nh)).trans ?_
  cases wantAgg r with
  | none => rfl
  | some x => exact agg4_semAggregator p x.1 x.2

theorem findAgg_block (ht : IsTail tail) :
    findAgg (semAll p r nh ++ tail) = match wantAgg r with
      | some (a, i) => some (if !p.asn4 && isBig a then exaAsTrans else a, i)
      | none => none := by
  rw [findAgg_eq, find_block p r nh tail ht gAgg 7 gAgg_none (by decide) (by decide)]
  refine (congrArg _ (semCode_aggregator p r nh)).trans ?_
  cases wantAgg r with
  | none => rfl
  | some x => exact agg_semAggregator p x.1 x.2

/-- AS4_AGGREGATOR is only sent beside an AGGREGATOR that carries AS_TRANS. -/
theorem useAs4_block (ht : IsTail tail) : useAs4 (semAll p r nh ++ tail) = true := by
  unfold useAs4
  rw [findAgg_block p r nh tail ht, findAgg4_block p r nh tail ht]
  cases wantAgg r with
  | none => rfl
  | some x => dsimp only; generalize (!p.asn4 && isBig x.1) = b; cases b <;> rfl

theorem findNextHop_block (ht : IsTail tail) :
    findNextHop (semAll p r nh ++ tail) = if nh.length = 4 then some (rd32 nh) else none := by
  rw [findNextHop_eq, find_block p r nh tail ht gNh 3 gNh_none (by decide) (by decide)]
  exact (congrArg _ (semCode_nextHop p r nh)).trans (apply_ite (List.findSome? gNh) ..)

theorem rep_slot (ht : IsTail tail) (P : Params) (as : List Attr) (c : Nat) (hk : slotOf c ∈ codeOrder) :
    (semAll p r nh ++ tail).findSome? (repAt (reportVal P as) c) =
      (semCode p r nh (slotOf c)).findSome? (repAt (reportVal P as) c) := by
  rw [findSome_append_tail _ _ _ (repAt_tail P _ c tail ht),
    find_semAll_slot p r nh _ c (fun a ha => repAt_none P _ c a ha) hk]

theorem rep_none (ht : IsTail tail) (P : Params) (as : List Attr) (c : Nat) (hk : slotOf c ∉ codeOrder) :
    (semAll p r nh ++ tail).findSome? (repAt (reportVal P as) c) = none := by
  rw [findSome_append_tail _ _ _ (repAt_tail P _ c tail ht),
    find_semAll_none p r nh _ c (fun a ha => repAt_none P _ c a ha) hk]

theorem rep_nextHop (ht : IsTail tail) (P : Params) (as : List Attr) :
    (semAll p r nh ++ tail).findSome? (repAt (reportVal P as) 3) =
      if nh.length = 4 then some (.nextHop (rd32 nh)) else none := by
  rw [rep_slot p r nh tail ht P as 3 (by decide)]
  exact (congrArg _ (semCode_nextHop p r nh)).trans (apply_ite (List.findSome? _) ..)

/-- What the peer must see for a keyword: its value; nothing for an empty list. -/
def askVal : ReqAttr → Option AttrVal
  | .origin v => some (.origin v)
  | .asPath s => some (.asPath s)
  | .med v => some (.med v)
  | .localPref v => some (.localPref v)
  | .atomicAggregate => some .atomicAggregate
  | .aggregator a i => some (.aggregator a i)
  | .communities cs => if cs = [] then none else some (.communities cs)
  | .originatorId i => some (.originatorId i)
  | .clusterList ids => if ids = [] then none else some (.clusterList ids)
  | .extCommunities cs => if cs = [] then none else some (.extCommunities cs)
  | .largeCommunities cs => if cs = [] then none else some (.largeCommunities cs)

theorem findSome_repAt_cons (R : Attr → Option AttrVal) (x : Attr) (rest : List Attr) {v : AttrVal}
    (h : R x = some v) : (x :: rest).findSome? (repAt R v.code) = some v := by
  rw [List.findSome?_cons, repAt, h]
  simp only [beq_self_eq_true, if_true]

theorem rep_ite {P' : Params} (P : Params) (as : List Attr) (e : Prop) [Decidable e] (o t : Bool) (v : AttrVal)
    (hv : reportVal P as (mk P' o t v) = some v) :
    (if e then [] else [mk P' o t v]).findSome? (repAt (reportVal P as) v.code) = if e then none else some v := by
  by_cases he : e
  · rw [if_pos he, if_pos he]; rfl
  · rw [if_neg he, if_neg he]; exact findSome_repAt_cons _ _ _ hv

theorem rep_semGiven (P : Params) (as : List Attr) (a : ReqAttr) (h2 : a.code ≠ 2) (h7 : a.code ≠ 7) :
    (semGiven p a).findSome? (repAt (reportVal P as) a.code) = askVal a := by
  cases a with
  | asPath s => exact absurd rfl h2
  | aggregator x i => exact absurd rfl h7
  | origin v => exact rep_ite P as False false true (.origin v) rfl
  | med v => exact rep_ite P as False true false (.med v) rfl
  | localPref v => exact rep_ite P as False false true (.localPref v) rfl
  | atomicAggregate => exact rep_ite P as False false true .atomicAggregate rfl
  | originatorId i => exact rep_ite P as False true false (.originatorId i) rfl
  | communities cs => exact rep_ite P as _ true true (.communities cs) rfl
  | clusterList ids => exact rep_ite P as _ true false (.clusterList ids) rfl
  | extCommunities cs => exact rep_ite P as _ true true (.extCommunities cs) rfl
  | largeCommunities cs => exact rep_ite P as _ true true (.largeCommunities cs) rfl

/-- AS_PATH as the receiver reconstructs it (RFC 6793 §4.2.3), given what the block holds under 17 and 18. -/
theorem rep_semAsPath (as : List Attr) (s : List Seg) (hs : PathOk s)
    (h4 : findAs4Path as = if p.asn4 then none else if hasBig (plainSegs s) then some (plainSegs s) else none)
    (hu : useAs4 as = true) :
    (semAsPath p s).findSome? (repAt (reportVal (paramsOf p) as) 2) = some (.asPath s) := by
  have hv : ∀ x, reportVal (paramsOf p) as (mk (paramsOf p) false true (.asPath x)) =
      if p.asn4 then some (.asPath x)
      else match findAs4Path as with
        | some s4 => if useAs4 as then some (.asPath (merge6793 x s4)) else some (.asPath x)
        | none => some (.asPath x) := fun _ => rfl
  unfold semAsPath
  cases hp : p.asn4
  · rw [if_neg Bool.false_ne_true]
    refine findSome_repAt_cons (v := .asPath s) _ _ _ ?_
    rw [hv, hp, if_neg Bool.false_ne_true, h4, hp, if_neg Bool.false_ne_true, plainSegs_of_PathOk s hs]
    cases hb : hasBig s
    · rw [if_neg Bool.false_ne_true, transSegs_id s hb]
    · rw [if_pos rfl]; dsimp only; rw [hu, if_pos rfl, merge_trans s hs]
  · rw [if_pos rfl]; refine findSome_repAt_cons (v := .asPath s) _ _ _ ?_; rw [hv, hp, if_pos rfl]

theorem rep17_semAsPath (P : Params) (as : List Attr) (s : List Seg) :
    (semAsPath p s).findSome? (repAt (reportVal P as) 17) = none := by
  apply findSome_none_of_all
  unfold semAsPath
  have e1 : ∀ x, repAt (reportVal P as) 17 (mk (paramsOf p) false true (.asPath x)) = none :=
    fun x => repAt_none P as 17 _ (by decide : (2 : Nat) ≠ 17)
  cases p.asn4
  · exact List.forall_mem_cons.2 ⟨e1 _, forall_mem_ite _ (List.forall_mem_singleton.2 rfl) (List.forall_mem_nil _)⟩
  · exact List.forall_mem_singleton.2 (e1 _)

/-- AGGREGATOR with AS_TRANS is replaced by the AS4_AGGREGATOR beside it. -/
theorem rep_semAggregator (as : List Attr) (a i : Nat)
    (h4 : findAgg4 as = if !p.asn4 && isBig a then some (a, i) else none) :
    (semAggregator p a i).findSome? (repAt (reportVal (paramsOf p) as) 7) = some (.aggregator a i) := by
  have hv : ∀ x, reportVal (paramsOf p) as (mk (paramsOf p) true true (.aggregator x i)) =
      if p.asn4 then some (.aggregator x i)
      else match findAgg4 as with
        | some (a4, ip4) => if x == asTrans then some (.aggregator a4 ip4) else some (.aggregator x i)
        | none => some (.aggregator x i) := fun _ => rfl
  unfold semAggregator
  cases hp : p.asn4
  · rw [if_neg Bool.false_ne_true]
    rw [hp] at h4
    cases hb : isBig a
    · rw [Bool.not_false, if_pos rfl]; refine findSome_repAt_cons (v := .aggregator a i) _ _ _ ?_
      rw [hv, hp, if_neg Bool.false_ne_true, h4, hb]; rfl
    · rw [Bool.not_true, if_neg Bool.false_ne_true]; refine findSome_repAt_cons (v := .aggregator a i) _ _ _ ?_
      rw [hv, hp, if_neg Bool.false_ne_true, h4, hb]; rfl
  · rw [if_pos rfl]; refine findSome_repAt_cons (v := .aggregator a i) _ _ _ ?_; rw [hv, hp, if_pos rfl]

theorem rep18_semAggregator (P : Params) (as : List Attr) (a i : Nat) :
    (semAggregator p a i).findSome? (repAt (reportVal P as) 18) = none := by
  apply findSome_none_of_all
  unfold semAggregator
  have e1 : ∀ x, repAt (reportVal P as) 18 (mk (paramsOf p) true true (.aggregator x i)) = none :=
    fun x => repAt_none P as 18 _ (by decide : (7 : Nat) ≠ 18)
  cases p.asn4
  · cases isBig a
    · exact List.forall_mem_singleton.2 (e1 _)
    · exact List.forall_mem_cons.2 ⟨e1 _, List.forall_mem_singleton.2 rfl⟩
  · exact List.forall_mem_singleton.2 (e1 _)

end

end Exa.WireExa
