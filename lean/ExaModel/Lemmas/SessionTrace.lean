import ExaModel.Lemmas.SessionStep
/-!
# M-Session — a checker for output traces, and the proof that every run passes it

`chk` reads a trace left to right with a little state of its own (`G`): the FSM state according
to the `fsm a>b` items, whether an API `up` is outstanding, the connections that are *dead*
for writing (a NOTIFICATION was written on them, or read from them), and the connections closed so far
(never asked about: `Rel.accounted` relates them to the ids the model has handed out).  It refuses:

* an `fsm a>b` whose `a` is not the state the previous items left, or with `(a, b)` not in the
  RFC 4271 table;
* a write labelled with another state than the trace's, or on a dead connection;
* (`strict` only) an UPDATE / End-of-RIB / ROUTE-REFRESH labelled with a state other than ESTABLISHED;
* an `up` while an `up` is outstanding.

`run_acc` : every run of the model passes the checker, strict included (since /repo 3a62d00 the
stale main loop writes nothing).
-/
namespace Exa.Session

structure G where
  fsm : Fsm
  up : Bool
  dead : List Nat
  closed : List Nat := []
deriving Repr

def isData : Kind → Bool
  | .update | .eor | .refresh => true
  | _ => false

def chk (strict : Bool) (g : G) : Out → Option G
  | .fsm a b => if a = g.fsm ∧ (a, b) ∈ rfcTable then some { g with fsm := b } else none
  | .send c k st =>
    if st = g.fsm ∧ c ∉ g.dead ∧ (strict = true → isData k = true → st = .established) then
      some (match k with
        | .notification _ _ => { g with dead := c :: g.dead }
        | _ => g)
    else none
  | .up => if g.up then none else some { g with up := true }
  | .down => some { g with up := false }
  | .gotNotification c => some { g with dead := c :: g.dead }
  | .close c => some { g with closed := c :: g.closed }
  | .reject _ => some g

def chkAll (strict : Bool) (g : G) : List Out → Option G
  | [] => some g
  | o :: os => (chk strict g o).bind fun g' => chkAll strict g' os

theorem chkAll_append (strict : Bool) (g : G) (xs ys : List Out) :
    chkAll strict g (xs ++ ys) = (chkAll strict g xs).bind fun g' => chkAll strict g' ys := by
  induction xs generalizing g with
  | nil => rfl
  | cons o os ih =>
    simp only [List.cons_append, chkAll]
    cases chk strict g o with
    | none => rfl
    | some g' => simpa using ih g'

theorem chkAll_split {strict : Bool} {g g' : G} {xs ys : List Out} :
    chkAll strict g (xs ++ ys) = some g' ↔ ∃ g1, chkAll strict g xs = some g1 ∧ chkAll strict g1 ys = some g' := by
  rw [chkAll_append, Option.bind_eq_some_iff]

def notNotif : Kind → Bool
  | .notification _ _ => false
  | _ => true

/-- the checker state after a write of kind `k` on connection `c`: a NOTIFICATION makes `c` dead. -/
def afterSend (k : Kind) (c : Nat) (g : G) : G :=
  { g with dead := if notNotif k then g.dead else c :: g.dead }

/-- what the checker asks of an item. -/
def chkOk (strict : Bool) (g : G) : Out → Prop
  | .fsm a b => a = g.fsm ∧ (a, b) ∈ rfcTable
  | .send c k st => st = g.fsm ∧ c ∉ g.dead ∧ (strict = true → isData k = true → st = .established)
  | .up => g.up = false
  | _ => True

/-- the checker state after an item it accepts. -/
def G.after (g : G) : Out → G
  | .fsm _ b => { g with fsm := b }
  | .send c k _ => afterSend k c g
  | .up => { g with up := true }
  | .down => { g with up := false }
  | .gotNotification c => { g with dead := c :: g.dead }
  | .close c => { g with closed := c :: g.closed }
  | .reject _ => g

theorem chk_iff {strict : Bool} {g g' : G} {o : Out} :
    chk strict g o = some g' ↔ chkOk strict g o ∧ g.after o = g' := by
  cases o with
  | send c k st =>
    have e : (match k with | .notification _ _ => { g with dead := c :: g.dead } | _ => g) = afterSend k c g := by
      cases k <;> rfl
    simp [chk, chkOk, G.after, e]
  | _ => simp [chk, chkOk, G.after]

theorem chkAll_cons {strict : Bool} {g g' : G} {o : Out} {os : List Out} :
    chkAll strict g (o :: os) = some g' ↔ chkOk strict g o ∧ chkAll strict (g.after o) os = some g' := by
  simp only [chkAll, Option.bind_eq_some_iff, chk_iff]
  constructor
  · rintro ⟨_, ⟨hok, rfl⟩, h⟩; exact ⟨hok, h⟩
  · rintro ⟨hok, h⟩; exact ⟨_, ⟨hok, rfl⟩, h⟩

/-- the checker's `up` is the model's `isUp` as long as the API process lives (once it is gone no
    `down` can be written and no `up` ever follows); `isUp` is only ever set with `neighbor-changes`. -/
@[reducible] def UpRel (s : State) (g : G) : Prop :=
  (s.dead = false → g.up = s.isUp) ∧ (s.isUp = true → s.cfg.changes = true)

/-- model state and checker state agree; `full`: the connection in use is not dead. -/
structure Rel (full : Bool) (s : State) (g : G) : Prop where
  fsm : g.fsm = s.fsm
  up : UpRel s g
  ids : ∀ i ∈ g.dead, i < s.nextId
  cid : ∀ k, s.conn = some k → k.id < s.nextId
  live : full = true → ∀ k, s.conn = some k → k.id ∉ g.dead
  accounted : ∀ i, 0 < i → i < s.nextId → (∃ k, s.conn = some k ∧ k.id = i) ∨ i ∈ g.closed

/-- the outputs of `r` pass the checker from `g`, and `Q` holds of where they lead. -/
def Acc (strict : Bool) (g : G) (r : R) (Q : State → G → Prop) : Prop :=
  ∃ g', chkAll strict g r.2 = some g' ∧ Q r.1 g'

variable {strict full : Bool} {s : State} {g : G}

theorem Acc.seq {r : R} {f : State → R} {P Q : State → G → Prop}
    (h1 : Acc strict g r P) (h2 : ∀ g1, P r.1 g1 → Acc strict g1 (f r.1) Q) : Acc strict g (r ⊳ f) Q := by
  obtain ⟨g1, e1, p1⟩ := h1
  obtain ⟨g2, e2, q2⟩ := h2 g1 p1
  exact ⟨g2, chkAll_split.2 ⟨g1, e1, e2⟩, q2⟩

theorem Acc.mono {r : R} {P Q : State → G → Prop}
    (h : Acc strict g r P) (hpq : ∀ g', P r.1 g' → Q r.1 g') : Acc strict g r Q := by
  obtain ⟨g1, e1, p1⟩ := h
  exact ⟨g1, e1, hpq _ p1⟩

theorem Acc.pure {Q : State → G → Prop} (h : Q s g) :
    Acc strict g (s, []) Q := ⟨g, rfl, h⟩

theorem Acc.cons {o : Out} {os : List Out} {Q : State → G → Prop}
    (hok : chkOk strict g o) (h : Acc strict (g.after o) (s, os) Q) : Acc strict g (s, o :: os) Q := by
  obtain ⟨g', e, q⟩ := h
  exact ⟨g', chkAll_cons.2 ⟨hok, e⟩, q⟩

theorem Acc.one {o : Out} {Q : State → G → Prop} (hok : chkOk strict g o)
    (h : Q s (g.after o)) : Acc strict g (s, [o]) Q :=
  Acc.cons hok (Acc.pure h)

theorem Rel.weaken (h : Rel full s g) : Rel false s g :=
  ⟨h.fsm, h.up, h.ids, h.cid, by simp, h.accounted⟩

theorem Rel.of_none {full' : Bool} (h : Rel full s g) (hc : s.conn = none) : Rel full' s g :=
  ⟨h.fsm, h.up, h.ids, h.cid, by simp [hc], h.accounted⟩

theorem Rel.frame {t : State} (h : Rel full s g) (h1 : t.fsm = s.fsm) (h2 : t.isUp = s.isUp)
    (h3 : t.nextId = s.nextId) (h4 : t.conn.map Conn.id = s.conn.map Conn.id)
    (h5 : t.dead = s.dead := by rfl) (h6 : t.cfg = s.cfg := by rfl) : Rel full t g := by
  refine ⟨by rw [h.fsm, h1], ⟨by rw [h5, h2]; exact h.up.1, by rw [h2, h6]; exact h.up.2⟩, by rw [h3]; exact h.ids, ?_, ?_, ?_⟩
  · intro k hk
    obtain ⟨k', hs, e⟩ := of_map_eq h4 hk
    rw [e, h3]; exact h.cid k' hs
  · intro hf k hk
    obtain ⟨k', hs, e⟩ := of_map_eq h4 hk
    rw [e]; exact h.live hf k' hs
  · intro i h0 hi
    rw [h3] at hi
    refine (h.accounted i h0 hi).imp_left ?_
    rintro ⟨k', hs, e⟩
    obtain ⟨k, ht, e'⟩ := of_map_eq h4.symm hs
    exact ⟨k, ht, e'.symm.trans e⟩

theorem Rel.drop {full' : Bool} {k : Conn} (h : Rel full s g) (hc : s.conn = some k) :
    Rel full' { s with conn := none } { g with closed := k.id :: g.closed } := by
  refine ⟨h.fsm, h.up, h.ids, by simp, by simp, ?_⟩
  intro i h0 hi
  rcases h.accounted i h0 hi with ⟨k', hs, e⟩ | hcl
  · rw [hc] at hs; cases hs; exact Or.inr (by simp [e])
  · exact Or.inr (by simp [hcl])

theorem Rel.bump (h : Rel full s g) :
    Rel full { s with nextId := s.nextId + 1 } { g with closed := s.nextId :: g.closed } := by
  refine ⟨h.fsm, h.up, fun i hi => Nat.lt_succ_of_lt (h.ids i hi), fun k hk => Nat.lt_succ_of_lt (h.cid k hk), h.live, ?_⟩
  intro i h0 hi
  by_cases hlt : i < s.nextId
  · rcases h.accounted i h0 hlt with hcur | hcl
    · exact Or.inl hcur
    · exact Or.inr (by simp [hcl])
  · exact Or.inr (by simp at hi ⊢; omega)

theorem Rel.adopt (h : Rel true s g) (hc : s.conn = none) :
    Rel true { s with conn := some { id := s.nextId }, nextId := s.nextId + 1 } g := by
  refine ⟨h.fsm, h.up, fun i hi => Nat.lt_succ_of_lt (h.ids i hi), ?_, ?_, ?_⟩
  · intro k hk; simp at hk; subst hk; simp
  · intro _ k hk; simp at hk; subst hk
    intro hd; exact Nat.lt_irrefl _ (h.ids _ hd)
  · intro i h0 hi
    by_cases hlt : i < s.nextId
    · rcases h.accounted i h0 hlt with ⟨k', hs, _⟩ | hcl
      · rw [hc] at hs; cases hs
      · exact Or.inr hcl
    · exact Or.inl ⟨{ id := s.nextId }, rfl, by simp at hi ⊢; omega⟩

theorem Rel.note {k : Conn} (h : Rel true s g) (hc : s.conn = some k) :
    Rel false s { g with dead := k.id :: g.dead } := by
  refine ⟨h.fsm, h.up, ?_, h.cid, by simp, h.accounted⟩
  intro i hi
  rcases List.mem_cons.1 hi with rfl | hi
  · exact h.cid k hc
  · exact h.ids i hi

theorem to_idle_rfc (a : Fsm) : (a, Fsm.idle) ∈ rfcTable := by cases a <;> decide

/-! Each postcondition is `Rel` alone: what the state `r.1` looks like is read off the model (`rfl`, or a closed form
of SessionInv) where the next step needs it. -/

theorem fsmTo_acc (t : Fsm) (h : Rel full s g) (ht : (s.fsm, t) ∈ rfcTable) : Acc strict g (fsmTo t s) (Rel full) :=
  Acc.one ⟨h.fsm.symm, ht⟩ { h with fsm := rfl }

theorem apiDown_acc (h : Rel full s g) : Acc strict g (apiDown s) (Rel full) := by
  fun_cases apiDown s
  · exact Acc.pure h
  split
  · exact Acc.one trivial { h with up := ⟨fun _ => rfl, by simp⟩ }
  · -- nothing is written: with the API process alive there are no neighbor-changes, so `isUp` was never set
    rename_i hw
    refine Acc.pure { h with up := ⟨fun (hd : s.dead = false) => ?_, by simp⟩ }
    cases hu : s.isUp
    · rw [h.up.1 hd, hu]
    · simp [h.up.2 hu, hd] at hw

theorem closeConn_acc (h : Rel full s g) : Acc strict g (closeConn s) (Rel true) := by
  fun_cases closeConn s
  case case1 k hc => exact Acc.one trivial (h.drop hc)
  case case2 hc => exact Acc.pure (h.of_none hc)

theorem closeP_acc (h : Rel full s g) : Acc strict g (closeP s) (Rel true) :=
  Acc.seq (Acc.seq (apiDown_acc h) (fun _ r1 => fsmTo_acc .idle r1 (to_idle_rfc _))) (fun _ r2 => closeConn_acc r2)

theorem resetP_acc (h : Rel full s g) : Acc strict g (resetP s) (Rel true) := by
  refine Acc.seq (closeP_acc h) ?_
  intro g1 r1
  split
  · exact Acc.pure (r1.frame rfl rfl rfl rfl)
  · exact Acc.pure r1

theorem stopP_acc (h : Rel full s g) : Acc strict g (stopP s) (Rel full) :=
  fsmTo_acc .idle (h.frame (t := { s with teardown := some 3, restart := false }) rfl rfl rfl rfl) (to_idle_rfc _)

theorem stopIfExhausted_acc (h : Rel full s g) : Acc strict g (stopIfExhausted s) (Rel full) := by
  fun_cases stopIfExhausted s
  · exact Acc.pure h
  · exact stopP_acc h

theorem finish_acc (h : Rel full s g) : Acc strict g (finish s) (Rel full) :=
  Acc.pure (h.frame rfl rfl rfl rfl)

theorem onNetErr_acc (h : Rel full s g) : Acc strict g (onNetErr s) (Rel true) :=
  Acc.seq (Acc.seq (stopIfExhausted_acc h) (fun _ r1 => resetP_acc r1)) (fun _ r2 => finish_acc r2)

theorem onOther_acc (h : Rel full s g) : Acc strict g (onOther s) (Rel true) :=
  Acc.seq (resetP_acc h) (fun _ r1 => finish_acc r1)

theorem onNotification_acc (h : Rel true s g) : Acc strict g (onNotification s) (Rel true) := by
  unfold onNotification
  refine Acc.seq (P := Rel false) ?_ (fun g1 r1 => onNetErr_acc r1)
  cases hc : s.conn with
  | none => exact Acc.pure h.weaken
  | some k => exact Acc.one trivial (h.note hc)

theorem afterSend_plain {k : Kind} (hk : notNotif k = true) (c : Nat) (g : G) : afterSend k c g = g := by
  unfold afterSend; rw [if_pos hk]

theorem Rel.sent {c : Conn} (k : Kind) (h : Rel true s g) (hc : s.conn = some c) :
    Rel (notNotif k) { s with conn := some (markSent k c) } (afterSend k c.id g) := by
  -- the state moves within `Rel.frame`; the checker either sees nothing or what it sees of a NOTIFICATION read
  have h' : Rel true { s with conn := some (markSent k c) } g := h.frame rfl rfl rfl (by simp [hc, markSent_id])
  unfold afterSend
  cases notNotif k
  · have := h'.note rfl
    rwa [markSent_id] at this
  · exact h'

theorem sendOn_acc (k : Kind) (h : Rel true s g) (hd : strict = true → isData k = true → s.fsm = .established) :
    Acc strict g (sendOn k s).1 (Rel (notNotif k)) := by
  cases hc : s.conn with
  | none =>
    rw [sendOn_none hc]
    exact Acc.pure (h.of_none hc)
  | some c =>
    have hok : chkOk strict g (.send c.id k s.fsm) := ⟨h.fsm.symm, h.live rfl c hc, hd⟩
    cases hr : c.rst
    · rw [sendOn_ok hc hr]
      exact Acc.one hok (h.sent k hc)
    · rw [sendOn_fail hc hr]
      have hdrop : Rel (notNotif k) { s with conn := none } _ := (h.sent k hc).drop rfl
      rw [markSent_id] at hdrop
      exact Acc.cons hok (Acc.one trivial hdrop)

theorem onNotify_acc (code sub : Nat) (h : Rel true s g) : Acc strict g (onNotify code sub s) (Rel true) :=
  Acc.seq
    (Acc.seq (Acc.seq (sendOn_acc (.notification code sub) h (by simp [isData])) (fun g1 r1 => resetP_acc r1))
      (fun g2 r2 => stopIfExhausted_acc r2))
    (fun g3 r3 => finish_acc r3)

theorem afterConnect_acc (h : Rel true s g) (hf : s.fsm = .idle) : Acc strict g (afterConnect s) (Rel true) := by
  have h1 : Acc strict g (fsmTo .connect s ⊳ fun t => (sendOn .open t).1) (Rel true) :=
    Acc.seq (fsmTo_acc .connect h (by rw [hf]; decide)) (fun g1 r1 => sendOn_acc .open r1 (by simp [isData]))
  unfold afterConnect
  simp only []
  split
  · have hf' : (sendOn .open (fsmTo .connect s).1).1.1.fsm = .connect := sendOn_fsm _ _
    exact Acc.seq (Acc.seq h1 (fun g1 r1 => fsmTo_acc .opensent r1 (by simp only [hf']; decide)))
      (fun g2 r2 => Acc.pure (r2.frame rfl rfl rfl rfl))
  · exact Acc.seq h1 (fun g1 r1 => onNetErr_acc r1)

theorem establish2_acc (h : Rel true s g) : Acc strict g (establish2 s) (Rel true) := by
  refine Acc.seq (fsmTo_acc .idle h (to_idle_rfc _)) ?_
  intro g1 r1
  split
  · exact Acc.pure (r1.frame rfl rfl rfl (by simp [*]))
  · exact afterConnect_acc r1 rfl

theorem beginRun_acc (h : Rel true s g) (hf : s.fsm = .idle) : Acc strict g (beginRun s) (Rel true) := by
  refine Acc.seq (fsmTo_acc .active h (by rw [hf]; decide)) ?_
  intro g1 r1
  split
  · exact Acc.pure (r1.frame rfl rfl rfl rfl)
  · exact establish2_acc r1

theorem enterMain_acc (c : Nat) (h : Rel true s g) (hu : s.isUp = false) : Acc strict g (enterMain c s) (Rel true) := by
  fun_cases enterMain c s
  · exact onNotify_acc 6 3 h
  · exact onNotify_acc 6 0 h
  · rename_i hnd
    cases hch : s.cfg.changes
    · exact Acc.pure { h with up := ⟨fun hd => (h.up.1 hd).trans hu, by simp⟩ }
    · -- `up` is written: the API process is alive, and none was outstanding
      have hdd : s.dead = false := by simpa [hch] using hnd
      exact Acc.one ((h.up.1 hdd).trans hu) { h with up := ⟨fun _ => rfl, fun _ => hch⟩ }

theorem sendKa_acc (c : Nat) (h : Rel true s g) : Acc strict g (sendKa c s) (Rel true) := by
  have h1 := sendOn_acc (strict := strict) .keepalive h (by simp [isData])
  fun_cases sendKa c s
  · exact Acc.seq h1 (fun g1 r1 => Acc.pure (r1.frame rfl rfl rfl rfl))
  · exact Acc.seq h1 (fun g1 r1 => onNetErr_acc r1)

theorem mainSends_acc (h : Rel true s g) (hd : strict = true → s.fsm = .established) :
    Acc strict g (mainSends s).1 (fun s' g' => Rel true s' g' ∧ s'.fsm = s.fsm) := by
  refine mainSends_cases (P := fun s w => ∀ g, Rel true s g → (strict = true → s.fsm = .established) →
    Acc strict g w.1 (fun s' g' => Rel true s' g' ∧ s'.fsm = s.fsm)) ?skip ?send ?andSend s g h hd
  case skip => exact fun s g h _ => Acc.pure ⟨h, rfl⟩
  case send =>
    intro k upd s hk hupd g h hd
    obtain ⟨u, u4, u5⟩ := hupd s
    have hn : notNotif k = true := by rcases hk with rfl | rfl | rfl <;> rfl
    refine Acc.mono (sendOn_acc k (h.frame u.fsm u.isUp u.nextId (by rw [u4]) u5 u.cfg) (fun hs _ => u.fsm.trans (hd hs))) ?_
    intro g' r
    exact ⟨hn ▸ r, by rw [sendOn_fsm, u.fsm]⟩
  case andSend =>
    intro s w f h1 h2 g h hd
    fun_cases W.andSend w f
    · refine Acc.seq (f := fun t => (f t).1) (h1 g h hd) ?_
      intro g1 ⟨r1, e1⟩
      exact Acc.mono (h2 _ g1 r1 (fun hs => e1.trans (hd hs))) (fun g' q => ⟨q.1, q.2.trans e1⟩)
    · exact h1 g h hd

theorem mainExit_acc (h : Rel true s g) : Acc strict g (mainExit s) (Rel true) := by
  fun_cases mainExit s
  · exact Acc.pure h
  · exact Acc.seq (closeP_acc h) (fun g1 r1 => onNetErr_acc r1)
  · exact onNotify_acc _ _ h

theorem mainTail_acc (h : Rel true s g) (hd : strict = true → s.fsm = .established) :
    Acc strict g (mainTail s) (Rel true) := by
  fun_cases mainTail s
  · exact Acc.seq (mainSends_acc h hd) (fun g1 p1 => mainExit_acc p1.1)
  · exact Acc.seq (mainSends_acc h hd) (fun g1 p1 => onNetErr_acc p1.1)

theorem mainIter_acc (m : Option Msg) (h : Rel true s g) (hd : strict = true → s.fsm = .established) :
    Acc strict g (mainIter m s) (Rel true) :=
  mainIter_cases (P := fun r => Acc strict g r (Rel true)) m s (fun _ _ => onNotify_acc _ _ h) (onNotification_acc h)
    (mainTail_acc (h.frame rfl rfl rfl rfl) hd)

theorem deliverAlive_acc (m : Msg) (h : Rel true s g) (hinv : Inv s)
    (c : Nat) (k : Conn) (haw : awaited s = some c) (hc : s.conn = some k) (hk : k.id = c) :
    Acc strict g (deliverAlive m s) (Rel true) := by
  subst hk
  refine deliverAlive_cases (P := fun r => Acc strict g r (Rel true)) m s (notify := fun _ _ => onNotify_acc _ _ h)
    (notification := onNotification_acc h) (openOk := ?openOk) (keepalive := ?keepalive) (main := ?main)
    (idle := Acc.pure h)
  case openOk =>
    intro c low hp
    obtain rfl : c = k.id := by simpa [awaited, hp] using haw
    have hf := (hinv.awaitOpen _ k hp hc rfl).1
    rw [markConn_some hc]
    exact Acc.seq (fsmTo_acc .openconfirm (h.frame rfl rfl rfl (by simp [hc])) (by rw [hf]; decide))
      (fun g1 r1 => sendKa_acc _ r1)
  case keepalive =>
    intro c hp
    obtain rfl : c = k.id := by simpa [awaited, hp] using haw
    have hf := (hinv.awaitKa _ k hp hc rfl).1
    have hu : s.isUp = false := hinv.isUp_false (by rw [hp]; simp) (by rw [hf]; simp)
    rw [markConn_some hc]
    exact Acc.seq (fsmTo_acc .established (h.frame rfl rfl rfl (by simp [hc])) (by rw [hf]; decide))
      (fun g1 r1 => enterMain_acc _ r1 hu)
  case main =>
    intro c hp
    obtain rfl : c = k.id := by simpa [awaited, hp] using haw
    exact mainIter_acc _ h (fun _ => (hinv.main _ k hp hc rfl).1)

theorem onProcessError_acc (m : Msg) (h : Rel true s g) : Acc strict g (onProcessError m s) (Rel true) := by
  unfold onProcessError
  refine Acc.seq (P := Rel false) ?_ (fun g1 r1 => onOther_acc r1)
  split
  · rename_i k hc; exact Acc.one trivial (h.note hc)
  · exact Acc.pure h.weaken

theorem deliver_acc (m : Msg) (h : Rel true s g) (hinv : Inv s)
    (c : Nat) (k : Conn) (haw : awaited s = some c) (hc : s.conn = some k) (hk : k.id = c) :
    Acc strict g (deliver m s) (Rel true) := by
  fun_cases deliver m s
  · exact onProcessError_acc m h
  · exact deliverAlive_acc m h hinv c k haw hc hk

theorem readErr_acc (h : Rel true s g) : Acc strict g (readErr s) (Rel true) :=
  Acc.seq (closeConn_acc h) (fun _ r1 => onNetErr_acc r1)

theorem advance_acc : ∀ (n : Nat) (s : State) (g : G), Rel true s g → Inv s →
    Acc strict g (advance n s) (Rel true)
  | 0, s, g, h, _ => Acc.pure h
  | n + 1, s, g, h, hinv => by
    refine advance_cases (P := fun r => Acc strict g r (Rel true)) n s (Acc.pure h) ?_ (fun _ _ => readErr_acc h)
    intro c k m rest haw hc hk hi
    have hinv' : Inv { s with conn := some { k with inbox := rest } } :=
      hinv.congr rfl rfl (by simp [hc, Conn.hist]) rfl rfl
    have h' : Rel true { s with conn := some { k with inbox := rest } } g :=
      h.frame rfl rfl rfl (by simp [hc])
    exact Acc.seq (deliver_acc m h' hinv' c { k with inbox := rest } haw rfl hk)
      (fun g1 r1 => advance_acc n _ g1 r1 (deliver_inv m _ hinv' c { k with inbox := rest } haw rfl hk))

theorem closeIfAny_acc (h : Rel true s g) : Acc strict g (closeIfAny s) (Rel true) := by
  unfold closeIfAny
  split
  · exact closeP_acc h
  · exact Acc.pure h

theorem passiveCont_acc {t : State} (h : Rel true t g) :
    Acc strict g (if t.pc = .passiveWait then establish2 t else (t, [])) (Rel true) := by
  split
  · exact establish2_acc h
  · exact Acc.pure h

theorem adopt_acc (h : Rel true s g) : Acc strict g (adopt s) (Rel true) :=
  Acc.seq (Acc.seq (Q := Rel true) (closeIfAny_acc h) (fun _ r1 => Acc.pure (r1.adopt (closeIfAny_conn s))))
    (fun _ r2 => passiveCont_acc r2)

/-- a connection that is refused (or dropped) right away: it gets an id, `reject` and `close`. -/
theorem rejected_acc (h : Rel true s g) :
    Acc strict g (({ s with nextId := s.nextId + 1 }, [.reject s.nextId, .close s.nextId]) : R) (Rel true) :=
  Acc.cons trivial (Acc.one trivial h.bump)

theorem handleConnection_acc (h : Rel true s g) : Acc strict g (handleConnection s) (Rel true) := by
  fun_cases handleConnection s
  · exact rejected_acc h
  · exact Acc.seq (closeIfAny_acc h) (fun g1 r1 => rejected_acc r1)
  · exact adopt_acc h

theorem drainMain_acc : ∀ (n : Nat) (s : State) (g : G), Rel true s g → Inv s →
    Acc strict g (drainMain n s) (Rel true)
  | 0, s, g, h, _ => Acc.pure h
  | n + 1, s, g, h, hinv => by
    refine drainMain_cases (P := fun r => Acc strict g r (Rel true)) n s (Acc.pure h) ?_ ?_ (fun _ _ => onOther_acc h)
    · intro c k hp hc hk
      have hf := (hinv.main c k hp hc hk).1
      exact Acc.seq (mainIter_acc none h (fun _ => hf)) (fun g1 r1 => drainMain_acc n _ g1 r1 (mainIter_inv _ s hinv hf))
    · intro c hp
      exact Acc.seq (onOther_acc h)
        (fun g1 r1 => drainMain_acc n _ g1 r1 (staleIter_inv s hinv (by rw [hp]; simp)))

/-- two checker states which differ by one more closed id in the second. -/
structure GPlus (c : Nat) (ga gb : G) : Prop where
  fsm : ga.fsm = gb.fsm
  up : ga.up = gb.up
  dead : ga.dead = gb.dead
  closed : ∀ i, i ∈ gb.closed ↔ i = c ∨ i ∈ ga.closed

/-- the checker never asks about `closed`. -/
theorem GPlus.ok {c : Nat} {ga gb : G} {o : Out} (h : GPlus c ga gb) (hok : chkOk strict gb o) : chkOk strict ga o := by
  cases o <;> simp only [chkOk, h.fsm, h.up, h.dead] at hok ⊢ <;> exact hok

theorem GPlus.after {c : Nat} {ga gb : G} (h : GPlus c ga gb) (o : Out) : GPlus c (ga.after o) (gb.after o) := by
  obtain ⟨h1, h2, h3, h4⟩ := h
  cases o with
  | send k kind st => exact ⟨h1, h2, by simp only [G.after, afterSend, h3], h4⟩
  | close k =>
    refine ⟨h1, h2, h3, fun i => ?_⟩
    simp only [G.after, List.mem_cons, h4 i]
    exact or_left_comm
  | fsm a b => exact ⟨rfl, h2, h3, h4⟩
  | up => exact ⟨h1, rfl, h3, h4⟩
  | down => exact ⟨h1, rfl, h3, h4⟩
  | gotNotification k => exact ⟨h1, h2, congrArg (k :: ·) h3, h4⟩
  | reject k => exact ⟨h1, h2, h3, h4⟩

theorem chkAll_gplus {c : Nat} : ∀ {os : List Out} {ga gb gb' : G}, GPlus c ga gb →
    chkAll strict gb os = some gb' → ∃ ga', chkAll strict ga os = some ga' ∧ GPlus c ga' gb'
  | [], ga, gb, gb', h, e => by cases e; exact ⟨ga, rfl, h⟩
  | o :: os, ga, gb, gb', h, e => by
    obtain ⟨hok, e2⟩ := chkAll_cons.1 e
    obtain ⟨ga', e3, p⟩ := chkAll_gplus (h.after o) e2
    exact ⟨ga', chkAll_cons.2 ⟨h.ok hok, e3⟩, p⟩

/-- the `close` of `c` moved to the end of the trace. -/
theorem Rel.of_gplus {c : Nat} {ga gb : G} (h : Rel full s gb) (p : GPlus c ga gb) :
    Rel full s { ga with closed := c :: ga.closed } :=
  ⟨p.fsm.trans h.fsm, ⟨fun hd => p.up.trans (h.up.1 hd), h.up.2⟩, p.dead ▸ h.ids, h.cid, p.dead ▸ h.live,
    fun i h0 hi => (h.accounted i h0 hi).imp_right fun hcl => List.mem_cons.2 ((p.closed i).1 hcl)⟩

/-- a connection that was made but never became `peer.proto`: it has an id, and its `close` comes
    after whatever `f` does meanwhile. -/
theorem dropped_acc {f : State → R} (h : Rel true s g)
    (hf : ∀ g1, Rel true { s with nextId := s.nextId + 1 } g1 →
      Acc strict g1 (f { s with nextId := s.nextId + 1 }) (Rel true)) :
    Acc strict g (f { s with nextId := s.nextId + 1 } ⊳ fun t => (t, [.close s.nextId])) (Rel true) := by
  -- run `f` with the id already among the closed ones, then move the `close` to the end
  obtain ⟨gb', eb, rb⟩ := hf _ h.bump
  have hplus : GPlus s.nextId g { g with closed := s.nextId :: g.closed } := ⟨rfl, rfl, rfl, fun i => List.mem_cons⟩
  obtain ⟨ga', ea, pa⟩ := chkAll_gplus hplus eb
  exact Acc.seq (P := fun _ g1 => GPlus s.nextId g1 gb') ⟨ga', ea, pa⟩ (fun g1 p1 => Acc.one trivial (rb.of_gplus p1))

theorem react_acc (e : Event) (h : Rel true s g) (hinv : Inv s) : Acc strict g (react s e) (Rel true) := by
  refine react_cases (P := fun r => Acc strict g r (Rel true)) s e (stay := Acc.pure h)
    (begin := fun hp => beginRun_acc h (hinv.backoffIdle hp))
    (finished := fun _ => Acc.pure (h.frame rfl rfl rfl rfl))
    (connected := ?connected)
    (connectedApiGone := fun _ => dropped_acc h (fun g1 r1 => onOther_acc r1))
    (connectFail := fun _ => Acc.seq (closeIfAny_acc h) (fun g1 r1 => onOther_acc r1))
    (incoming := handleConnection_acc h)
    (wire := fun k k' hc hh =>
      Acc.pure (h.frame rfl rfl rfl (by simp [hc, show k'.id = k.id from congrArg Prod.fst hh])))
    (openwait := fun _ _ => onNotify_acc _ _ h)
    (holdMain := ?holdMain)
    (holdKa := fun _ _ => onNotify_acc _ _ h)
    (tick := fun c k hp hc hk => mainIter_acc _ h (fun _ => (hinv.main c k hp hc hk).1))
    (stale := fun _ _ => onOther_acc h)
    (request := fun _ _ _ _ _ => Acc.pure (h.frame rfl rfl rfl rfl))
    (apiDies := fun _ => Acc.pure { h with up := ⟨by simp, h.up.2⟩ })
    (stop := Acc.seq (closeIfAny_acc h) (fun g1 r1 => stopP_acc r1))
  case connected =>
    intro hp
    refine Acc.seq (P := Rel true) ?_ (fun g1 r1 => afterConnect_acc r1 (hinv.connectingIdle hp))
    cases hc : s.conn with
    | none => exact Acc.pure (h.adopt hc)
    | some old => exact Acc.one trivial ((h.drop hc).adopt rfl)
  case holdMain =>
    intro c hp
    refine Acc.seq (drainMain_acc _ s g h hinv) ?_
    intro g1 r1
    split
    · exact onNotify_acc _ _ r1
    · exact Acc.pure r1

theorem step_acc (e : Event) (h : Rel true s g) (hinv : Inv s) : Acc strict g (step s e) (Rel true) :=
  Acc.seq (react_acc e h hinv) (fun g1 r1 => advance_acc _ _ g1 r1 (react_inv s e hinv))

theorem run_acc : ∀ (evs : List Event) (s : State) (g : G), Rel true s g → Inv s →
    Acc strict g (run s evs) (Rel true)
  | [], _, _, h, _ => Acc.pure h
  | e :: es, s, _, h, hinv =>
    Acc.seq (step_acc e h hinv) (fun g1 r1 => run_acc es _ g1 r1 (step_inv s e hinv))

def g0 : G := { fsm := .idle, up := false, dead := [] }

theorem rel_init (cfg : Cfg) (rib : Bool) : Rel true (init cfg rib) g0 :=
  ⟨rfl, ⟨fun _ => rfl, by simp [init]⟩, by simp [g0], by simp [init], by simp [init], by intro i h0 hi; simp [init] at hi; omega⟩

end Exa.Session
