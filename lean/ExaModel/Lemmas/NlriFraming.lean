import ExaModel.Model.NlriFraming
/-! Lemmas for M-Framing: each splitter inverts its canonical framer; and, read the other way, what
    a splitter that accepts must have seen and what it returns then (the `_eq_some` lemmas and
    `split_whole`). -/
namespace Exa.Framing
open Exa Exa.Generated.Registry

theorem cutAt_append (x rest : Bytes) {n : Nat} (h : n = x.length) : cutAt n (x ++ rest) = some ⟨x, x, rest⟩ := by
  subst h; simp [cutAt]

theorem cutAt_eq_some {n : Nat} {d : Bytes} {c : Cut} (h : cutAt n d = some c) :
    c = ⟨d.take n, d.take n, d.drop n⟩ := by
  revert h; fun_cases cutAt n d <;> intro h <;> cases h
  rfl

theorem len4 (p : Bytes) (h : p.length = 4) : ∃ a b c d, p = [a, b, c, d] := by
  match p, h with
  | [a, b, c, d], _ => exact ⟨a, b, c, d, rfl⟩

theorem split_pfx_none (mask : Nat) (v rest : Bytes) (hv : v.length = (mask + 7) / 8) :
    splitPrefixBits false (mask :: v ++ rest) = some ⟨mask :: v, mask :: v, rest⟩ := by
  unfold splitPrefixBits
  rw [if_neg (by simp), if_neg (by simp)]
  exact cutAt_append (mask :: v) rest (by rw [List.length_cons, hv]; exact Nat.add_comm ..)

theorem split_pfx_some (p : Bytes) (mask : Nat) (v rest : Bytes) (hp : p.length = 4)
    (hv : v.length = (mask + 7) / 8) :
    splitPrefixBits true (p ++ mask :: v ++ rest) = some ⟨p ++ mask :: v, p ++ mask :: v, rest⟩ := by
  obtain ⟨a, b, c, d, rfl⟩ := len4 p hp
  unfold splitPrefixBits
  rw [if_neg (by simp [pathInfoSize]), if_neg (by simp [pathInfoSize])]
  exact cutAt_append ([a, b, c, d] ++ mask :: v) rest
    (by show 4 + 1 + (mask + 7) / 8 = v.length + 5; rw [hv]; exact Nat.add_comm ..)

theorem split_typeLen8 (ty : Nat) (v rest : Bytes) :
    splitTypeLen8 (ty :: v.length :: v ++ rest) = some ⟨ty :: v.length :: v, ty :: v.length :: v, rest⟩ := by
  unfold splitTypeLen8
  rw [if_neg (by simp)]
  exact cutAt_append (ty :: v.length :: v) rest (Nat.add_comm ..)

theorem split_mup (arch code : Nat) (v rest : Bytes) :
    splitMup (arch :: (be16 code ++ v.length :: v) ++ rest)
      = some ⟨arch :: (be16 code ++ v.length :: v), arch :: (be16 code ++ v.length :: v), rest⟩ := by
  unfold splitMup
  rw [if_neg (by simp [be16])]
  exact cutAt_append (arch :: (be16 code ++ v.length :: v)) rest (Nat.add_comm ..)

theorem rd16_be16_app (n : Nat) (h : n < 65536) (x : Bytes) : rd16 (be16 n ++ x) = n := rd16_be16 n h x

theorem split_bgpls (vpn : Bool) (code : Nat) (v rest : Bytes) (hc : code < 65536) (hv : v.length < 65536)
    (h8 : vpn = true → bgplsCodes.contains code = true → 8 ≤ v.length) :
    splitBgpls vpn (be16 code ++ be16 v.length ++ v ++ rest)
      = some ⟨be16 code ++ be16 v.length ++ v, be16 code ++ be16 v.length ++ v, rest⟩ := by
  have hcode : rd16 (be16 code ++ be16 v.length ++ v ++ rest) = code := by
    rw [List.append_assoc, List.append_assoc]; exact rd16_be16 code hc _
  have hlen : rd16 ((be16 code ++ be16 v.length ++ v ++ rest).drop 2) = v.length := by
    rw [List.append_assoc, List.append_assoc, List.drop_left' (be16_length code)]; exact rd16_be16 _ hv _
  have hg : (vpn && decide (v.length < 8) && bgplsCodes.contains code) = false := by
    cases vpn <;> cases hk : bgplsCodes.contains code <;> simp
    exact h8 rfl hk
  unfold splitBgpls
  rw [if_neg (by simp [be16])]
  simp only [hcode, hlen, hg, Bool.false_eq_true, if_false]
  exact cutAt_append _ rest (by simp; omega)

theorem flowFrame_small (v : Bytes) (h : v.length < 240) : flowFrame v = some (v.length :: v) := by
  unfold flowFrame; simp [flowCompactLimit, h]

theorem flowFrame_big (v : Bytes) (h1 : 240 ≤ v.length) (h2 : v.length < 4095) :
    flowFrame v = some ((240 + v.length / 256) :: v.length % 256 :: v) := by
  unfold flowFrame
  have h3 : ¬ v.length < flowCompactLimit := by simp [flowCompactLimit]; omega
  have h4 : v.length < flowEncodeLimit := by simp [flowEncodeLimit]; omega
  simp [h3, h4, flowExtendedValue]

/-- The first byte of the two-byte length form: the marker nibble above the length's third nibble. -/
theorem flow_ext_byte {q : Nat} (h : q < 16) : (240 + q) / 16 % 16 = 15 ∧ (240 + q) % 16 = q := by
  rw [show 240 + q = 16 * 15 + q from rfl, Nat.mul_add_div (by decide), Nat.mul_add_mod, Nat.div_eq_of_lt h,
    Nat.mod_eq_of_lt h]
  exact ⟨rfl, rfl⟩

/-- A length byte of the one-byte form does not carry the marker nibble. -/
theorem flow_short_byte {b0 : Nat} (h : b0 < 240) : ¬ b0 / 16 % 16 = 15 := by
  have h1 : b0 / 16 < 15 := Nat.div_lt_of_lt_mul h
  rw [Nat.mod_eq_of_lt (Nat.lt_trans h1 (by decide))]
  exact Nat.ne_of_lt h1

theorem splitFlowWith_one (shift : Nat) {b0 : Nat} (t : Bytes) (h : b0 < 240) :
    splitFlowWith shift (b0 :: t)
      = if b0 > t.length then none else some ⟨b0 :: t.take b0, t.take b0, t.drop b0⟩ := by
  simp only [splitFlowWith, flow_short_byte h, if_false]

theorem splitFlowWith_two (shift : Nat) {q : Nat} (b1 : Nat) (t : Bytes) (h : q < 16) :
    splitFlowWith shift ((240 + q) :: b1 :: t)
      = if q * 2 ^ shift + b1 > t.length then none
        else some ⟨(240 + q) :: b1 :: t.take (q * 2 ^ shift + b1), t.take (q * 2 ^ shift + b1),
                   t.drop (q * 2 ^ shift + b1)⟩ := by
  simp only [splitFlowWith, flow_ext_byte h, if_true]

/-- The decoder inverts the encoder whenever the shift puts the high nibble of the length where the
    encoder took it from: always with the RFC 8955 shift of 8, and with any shift below 256 bytes
    (the nibble is then 0). -/
theorem split_flowWith (shift : Nat) (v rest : Bytes) (h : v.length < 4095)
    (hs : v.length / 256 * 2 ^ shift = v.length / 256 * 256) :
    ∃ f, flowFrame v = some f ∧ splitFlowWith shift (f ++ rest) = some ⟨f, v, rest⟩ := by
  have h2 : ¬ v.length > (v ++ rest).length := by simp
  by_cases hsm : v.length < 240
  · refine ⟨_, flowFrame_small v hsm, ?_⟩
    rw [List.cons_append, splitFlowWith_one shift _ hsm, if_neg h2, List.take_left, List.drop_left]
  · refine ⟨_, flowFrame_big v (by omega) h, ?_⟩
    have hlen : v.length / 256 * 2 ^ shift + v.length % 256 = v.length := by
      rw [hs]; exact Nat.div_add_mod' ..
    rw [List.cons_append, List.cons_append, splitFlowWith_two shift _ _ (Nat.div_lt_of_lt_mul (by omega)),
      hlen, if_neg h2, List.take_left, List.drop_left]

theorem flow_shift_refuses (shift : Nat) (hs : 8 < shift) (v : Bytes) (h1 : 256 ≤ v.length) (h2 : v.length < 4095) :
    ∃ f, flowFrame v = some f ∧ splitFlowWith shift f = none := by
  refine ⟨_, flowFrame_big v (by omega) h2, ?_⟩
  have hq : 1 ≤ v.length / 256 := (Nat.le_div_iff_mul_le (by decide)).2 (by omega)
  have := Nat.div_add_mod' v.length 256
  have : v.length / 256 * 2 ^ 9 ≤ v.length / 256 * 2 ^ shift :=
    Nat.mul_le_mul_left _ (Nat.pow_le_pow_right (by decide) hs)
  rw [splitFlowWith_two shift _ _ (Nat.div_lt_of_lt_mul (by omega)), if_pos (by omega)]

theorem split_flow (v rest : Bytes) (h : v.length < 256) :
    ∃ f, flowFrame v = some f ∧ splitFlow (f ++ rest) = some ⟨f, v, rest⟩ :=
  split_flowWith flowShift v rest (by omega) (by simp [Nat.div_eq_of_lt h])

theorem split_vpls (v : Bytes) (hv : v.length = 17) :
    splitVpls (be16 v.length ++ v) = some ⟨be16 v.length ++ v, be16 v.length ++ v, []⟩ := by
  unfold splitVpls
  have hl : (be16 v.length ++ v).length = 19 := by simp [hv]
  have hr : rd16 (be16 v.length ++ v) = 17 := by rw [rd16_be16 _ (by omega)]; exact hv
  simp only [hl, hr, vplsPayloadSize]
  have : be16 17 ++ ((be16 v.length ++ v).drop 2).take 17 = be16 v.length ++ v := by
    have h2 : (be16 v.length ++ v).drop 2 = v := List.drop_left' (by simp)
    rw [h2, List.take_of_length_le (by omega), hv]
  simp [this]

theorem split_vpls_followed (v rest : Bytes) (hv : v.length = 17) (hr : rest ≠ []) :
    splitVpls (be16 v.length ++ v ++ rest) = none := by
  unfold splitVpls
  have hl : (be16 v.length ++ v ++ rest).length = 19 + rest.length := by simp [hv]; omega
  have hrd : rd16 (be16 v.length ++ v ++ rest) = 17 := by
    rw [List.append_assoc, rd16_be16 _ (by omega)]; exact hv
  simp only [hl, hrd, vplsPayloadSize]
  simp [hr]

theorem split_rtc (bits : Nat) (v rest : Bytes) (h1 : 32 ≤ bits) (h2 : bits ≤ 96) (hv : v.length = 12) :
    splitRtc (bits :: v ++ rest)
      = some ⟨bits :: v, bits :: (v.take 4 ++ [resetFlags (v.getD 4 0)] ++ (v.drop 5).take 7), rest⟩ := by
  unfold splitRtc
  simp only [List.cons_append]
  have c1 : ¬ bits = 0 := by omega
  have c2 : ¬ (bits < rtcMinBits ∨ bits > rtcMaxBits) := by simp [rtcMinBits, rtcMaxBits]; omega
  have c3 : ¬ (bits :: (v ++ rest)).length < rtcFullLength := by simp [rtcFullLength, hv]
  simp only [c1, c2, c3, if_false]
  have t13 : (bits :: (v ++ rest)).take 13 = bits :: v := by
    rw [List.take_succ_cons, List.take_left' hv]
  have d13 : (bits :: (v ++ rest)).drop 13 = rest := by
    rw [List.drop_succ_cons, List.drop_left' hv]
  have t5 : (bits :: (v ++ rest)).take 5 = bits :: v.take 4 := by
    rw [List.take_succ_cons, List.take_append_of_le_length (by omega)]
  have g5 : (bits :: (v ++ rest)).getD 5 0 = v.getD 4 0 := by
    rw [List.getD_cons_succ, List.getD_eq_getElem?_getD, List.getD_eq_getElem?_getD,
      List.getElem?_append_left (by omega)]
  have d6 : ((bits :: (v ++ rest)).drop 6).take 7 = (v.drop 5).take 7 := by
    rw [List.drop_succ_cons, List.drop_append_of_le_length (by omega),
      List.take_append_of_le_length (by simp; omega)]
  rw [t13, d13, t5, g5, d6]
  rfl

theorem split_srPolicy (afi : Nat) (v rest : Bytes) (hv : v.length * 8 = srPolicyBits afi) :
    splitSrPolicy afi ((v.length * 8) :: v ++ rest) = some ⟨(v.length * 8) :: v, v, rest⟩ := by
  have hdiv : v.length * 8 / 8 = v.length := Nat.mul_div_cancel _ (by decide)
  have hl : ¬ (v.length * 8 :: (v ++ rest)).length < 1 + v.length := by simp; omega
  rw [List.cons_append, splitSrPolicy, if_neg (fun h => h hv), hdiv, if_neg hl, Nat.add_comm 1,
    List.take_succ_cons, List.drop_succ_cons, List.take_left, List.drop_left]

theorem split_whole {k : Kind} {c : Cfg} {d : Bytes} {cut : Cut}
    (hk : k = .prefixBits ∨ k = .typeLen8 ∨ k = .mup ∨ k = .type16Len16) (h : split k c d = some cut) :
    ∃ n, cut = ⟨d.take n, d.take n, d.drop n⟩ := by
  rcases hk with rfl | rfl | rfl | rfl <;>
    simp only [split, splitPrefixBits, splitTypeLen8, splitMup, splitBgpls, Option.ite_none_left_eq_some,
      Option.some.injEq] at h
  · exact ⟨_, cutAt_eq_some h.2.2⟩
  · exact ⟨_, cutAt_eq_some h.2⟩
  · exact ⟨_, cutAt_eq_some h.2⟩
  · exact ⟨_, h.2.2.2.symm⟩

theorem splitFlowWith_eq_some {shift : Nat} {d : Bytes} {c : Cut} (h : splitFlowWith shift d = some c) :
    (∃ b0 t, d = b0 :: t ∧ b0 / 16 % 16 ≠ 15 ∧ b0 ≤ t.length ∧ c = ⟨b0 :: t.take b0, t.take b0, t.drop b0⟩) ∨
    (∃ b0 b1 t, d = b0 :: b1 :: t ∧ b0 / 16 % 16 = 15 ∧ b0 % 16 * 2 ^ shift + b1 ≤ t.length ∧
      c = ⟨b0 :: b1 :: t.take (b0 % 16 * 2 ^ shift + b1), t.take (b0 % 16 * 2 ^ shift + b1),
           t.drop (b0 % 16 * 2 ^ shift + b1)⟩) := by
  revert h; fun_cases splitFlowWith shift d <;> intro h <;> cases h
  case case4 b0 h15 b1 t _ hle => exact .inr ⟨b0, b1, t, rfl, h15, Nat.le_of_not_gt hle, rfl⟩
  case case6 b0 t h15 hle => exact .inl ⟨b0, t, rfl, h15, Nat.le_of_not_gt hle, rfl⟩

theorem splitVpls_eq_some {d : Bytes} {c : Cut} (h : splitVpls d = some c) :
    17 ≤ rd16 d ∧ d.length = rd16 d + 2 ∧ c = ⟨d, be16 17 ++ (d.drop 2).take 17, []⟩ := by
  revert h; fun_cases splitVpls d <;> intro h <;> cases h
  case case4 _ _ h1 h2 => exact ⟨Nat.le_of_not_gt h1, Decidable.not_not.1 h2, rfl⟩

theorem splitRtc_eq_some {d : Bytes} {c : Cut} (h : splitRtc d = some c) :
    (∃ t, d = 0 :: t ∧ c = ⟨[0], [0], t⟩) ∨
    (13 ≤ d.length ∧
      c = ⟨d.take 13, d.take 5 ++ [resetFlags (d.getD 5 0)] ++ (d.drop 6).take 7, d.drop 13⟩) := by
  -- the length test is on the matched `d` itself, and stays an `if` in the last two branches
  revert h; fun_cases splitRtc d
  case case2 t => exact fun h => .inl ⟨t, rfl, (Option.some.inj h).symm⟩
  case case4 h13 => rw [if_pos h13]; nofun
  case case5 h13 => rw [if_neg h13]; exact fun h => .inr ⟨Nat.le_of_not_gt h13, (Option.some.inj h).symm⟩
  all_goals nofun

theorem splitSrPolicy_eq_some {afi : Nat} {d : Bytes} {c : Cut} (h : splitSrPolicy afi d = some c) :
    ∃ t, d = srPolicyBits afi :: t ∧ srPolicyBits afi / 8 ≤ t.length ∧
      c = ⟨d.take (1 + srPolicyBits afi / 8), t.take (srPolicyBits afi / 8), d.drop (1 + srPolicyBits afi / 8)⟩ := by
  revert h; fun_cases splitSrPolicy afi d
  case case3 hl => rw [if_pos hl]; nofun
  case case4 bits t h0 hl =>
    obtain rfl := Decidable.not_not.1 h0
    rw [if_neg hl]
    exact fun h => ⟨t, rfl, by simp at hl; omega, (Option.some.inj h).symm⟩
  all_goals nofun

end Exa.Framing
