import ExaModel.Lemmas.RibEffect
/-! Every compound RIB operation is a composition of `add`, `del`, `resend` and watchdog-book
    updates; a predicate closed under those four is closed under all of them.  The invariants of
    M-Rib — `Good` while a session is up, `Down` at all times — are such predicates. -/
namespace Exa.Rib
open Exa

structure RibClosed (P : Rib → Prop) : Prop where
  add : ∀ s r f, P s → P (s.add r f)
  del : ∀ s n f, P s → P (s.del n f)
  resend : ∀ s e f, P s → P (s.resend e f)
  book : ∀ s p m, P s → P { s with wdPlus := p, wdMinus := m }

/-- The index `replace_restart` / `replace_reload` build of the previous routes. -/
def prevIndex (prev : List Route) : AList Nat Route :=
  prev.foldl (fun d r => AList.insert r.nlri r d) ([] : AList Nat Route)

theorem prevIndex_aux (prev : List Route) (d : AList Nat Route) (hd : WFMap d) (m : Nat) :
    WFMap (prev.foldl (fun d r => AList.insert r.nlri r d) d) ∧
    (AList.lookup m (prev.foldl (fun d r => AList.insert r.nlri r d) d)).isSome
      = (prev.any (·.nlri == m) || (AList.lookup m d).isSome) := by
  induction prev generalizing d with
  | nil => simp [hd]
  | cons r t ih =>
    obtain ⟨h1, h2⟩ := ih (AList.insert r.nlri r d) (wfmap_insert hd r)
    refine ⟨h1, ?_⟩
    rw [List.foldl_cons, h2, List.any_cons, AList.lookup_insert]
    by_cases hm : r.nlri = m
    · simp [hm]
    · simp [Ne.symm hm, beq_false_of_ne hm, Bool.or_comm]

theorem prevIndex_wf (prev : List Route) : WFMap (prevIndex prev) := (prevIndex_aux prev [] wfmap_nil 0).1

theorem prevIndex_isSome (prev : List Route) (m : Nat) :
    (AList.lookup m (prevIndex prev)).isSome = prev.any (·.nlri == m) := by
  simpa [prevIndex] using (prevIndex_aux prev [] wfmap_nil m).2

/-- The loop of `replace_reload` over the new routes: a route found in the index is popped from
    it, any other is force-added. -/
def reloadFold : List Route → Rib → AList Nat Route → Rib × AList Nat Route
  | [], rib, idx => (rib, idx)
  | r :: t, rib, idx =>
    match AList.lookup r.nlri idx with
    | some _ => reloadFold t rib (AList.erase r.nlri idx)
    | none => reloadFold t (rib.add r true) idx

theorem replaceReload_eq (rib : Rib) (prev new : List Route) :
    rib.replaceReload prev new
      = (reloadFold new rib (prevIndex prev)).1.delRoutes (AList.values (reloadFold new rib (prevIndex prev)).2) := by
  unfold Rib.replaceReload
  show (List.foldl _ (rib, prevIndex prev) new).1.delRoutes (AList.values (List.foldl _ (rib, prevIndex prev) new).2) = _
  suffices h : ∀ rib idx, List.foldl _ (rib, idx) new = reloadFold new rib idx by rw [h]
  intro rib idx
  fun_induction reloadFold new rib idx with
  | case1 => rfl
  | case2 r t rib idx x hl ih => rw [← ih, List.foldl_cons]; simp only [hl]
  | case3 r t rib idx hl ih => rw [← ih, List.foldl_cons]; simp only [hl]

section closed
variable {P : Rib → Prop}

theorem RibClosed.of_updateRib (upd : ∀ s r, P s → P (s.updateRib r)) (del : ∀ s n f, P s → P (s.del n f))
    (resend : ∀ s e f, P s → P (s.resend e f)) (book : ∀ s p m, P s → P { s with wdPlus := p, wdMinus := m }) :
    RibClosed P := by
  refine ⟨fun s r f h => ?_, del, resend, book⟩
  fun_cases Rib.add s r f
  · exact h
  · exact upd s r h

theorem RibClosed.delRoutes (h : RibClosed P) (rs : List Route) (s : Rib) (hs : P s) : P (s.delRoutes rs) := by
  induction rs generalizing s with
  | nil => exact hs
  | cons r t ih => exact ih _ (h.del s r.nlri r.fam hs)

theorem RibClosed.addRoutes (h : RibClosed P) (f : Bool) (rs : List Route) (s : Rib) (hs : P s) :
    P (rs.foldl (fun s r => s.add r f) s) := by
  induction rs generalizing s with
  | nil => exact hs
  | cons r t ih => exact ih _ (h.add s r f hs)

theorem RibClosed.withdrawAll (h : RibClosed P) (fs : List Nat) (s : Rib) (hs : P s) : P (s.withdrawAll fs) :=
  h.delRoutes _ s hs

theorem RibClosed.wdogAdd (h : RibClosed P) (r : Route) (name : Nat) (w : Bool) (s : Rib) (hs : P s) :
    P (s.wdogAdd r name w) := by
  fun_cases Rib.wdogAdd s r name w
  · exact h.book s s.wdPlus _ hs
  · exact h.add _ r false (h.book s _ s.wdMinus hs)

theorem RibClosed.wdogAnnounce (h : RibClosed P) (name : Nat) (s : Rib) (hs : P s) : P (s.wdogAnnounce name) := by
  fun_cases Rib.wdogAnnounce s name
  · exact hs
  · exact h.book _ _ _ (h.addRoutes false _ s hs)

theorem RibClosed.wdogWithdraw (h : RibClosed P) (name : Nat) (s : Rib) (hs : P s) : P (s.wdogWithdraw name) := by
  fun_cases Rib.wdogWithdraw s name
  · exact hs
  · exact h.book _ _ _ (h.delRoutes _ s hs)

theorem RibClosed.replaceRestart (h : RibClosed P) (prev new : List Route) (s : Rib) (hs : P s) :
    P (s.replaceRestart prev new) :=
  h.delRoutes _ _ (h.addRoutes true _ s hs)

theorem RibClosed.reloadFold (h : RibClosed P) (new : List Route) (rib : Rib) (idx : AList Nat Route) (hs : P rib) :
    P (Rib.reloadFold new rib idx).1 := by
  fun_induction Rib.reloadFold new rib idx with
  | case1 => exact hs
  | case2 r t rib idx x hl ih => exact ih hs
  | case3 r t rib idx hl ih => exact ih (h.add rib r true hs)

theorem RibClosed.replaceReload (h : RibClosed P) (prev new : List Route) (s : Rib) (hs : P s) :
    P (s.replaceReload prev new) := by
  rw [replaceReload_eq]; exact h.delRoutes _ _ (h.reloadFold new s _ hs)

end closed

theorem frame_closed (c : Bool) (fams : List Nat) :
    RibClosed (fun rib => rib.cacheOn = c ∧ rib.families = fams) :=
  .of_updateRib (fun _ _ h => h) (fun _ _ _ h => h) (fun _ _ _ h => h) (fun _ _ _ h => h)

theorem add_cacheOn (rib : Rib) (r : Route) (f : Bool) : (rib.add r f).cacheOn = rib.cacheOn :=
  ((frame_closed _ _).add rib r f ⟨rfl, rfl⟩).1

theorem add_families (rib : Rib) (r : Route) (f : Bool) : (rib.add r f).families = rib.families :=
  ((frame_closed _ _).add rib r f ⟨rfl, rfl⟩).2

theorem updateRib_cache (rib : Rib) (r : Route) (hc : rib.cacheOn = true) :
    (rib.updateRib r).cache = AList.insert r.nlri r rib.cache := by
  simp [Rib.updateRib, hc]

theorem updateRib_newAnn (rib : Rib) (r : Route) : (rib.updateRib r).newAnn = AList.insert r.nlri r rib.newAnn := rfl

theorem del_cache (rib : Rib) (m f : Nat) (hc : rib.cacheOn = true) :
    (rib.del m f).cache = AList.erase m rib.cache := by
  simp [Rib.del, hc]

theorem updateRib_cacheView (rib : Rib) (r : Route) (hc : rib.cacheOn = true) (n : Nat) :
    (rib.updateRib r).cacheView n = if n = r.nlri then some (r.attr, r.nh) else rib.cacheView n := by
  rw [Rib.cacheView, updateRib_cache rib r hc, AList.lookup_insert]; split <;> rfl

theorem add_force (rib : Rib) (r : Route) : rib.add r true = rib.updateRib r := rfl

theorem inCache_cacheView {rib : Rib} {r : Route} (h : rib.inCache r = true) :
    rib.cacheView r.nlri = some (r.attr, r.nh) := by
  unfold Rib.inCache at h; unfold Rib.cacheView
  cases hl : AList.lookup r.nlri rib.cache <;> simp_all

/-- `add` may find the route in the cache and do nothing: the view is the same either way. -/
theorem add_cacheView (rib : Rib) (r : Route) (f : Bool) (hc : rib.cacheOn = true) (n : Nat) :
    (rib.add r f).cacheView n = if n = r.nlri then some (r.attr, r.nh) else rib.cacheView n := by
  fun_cases Rib.add rib r f with
  | case1 h =>
    split
    · subst n; exact inCache_cacheView (Bool.and_eq_true_iff.1 h).2
    · rfl
  | case2 => exact updateRib_cacheView rib r hc n

theorem del_cacheView (rib : Rib) (m f : Nat) (hc : rib.cacheOn = true) (n : Nat) :
    (rib.del m f).cacheView n = if n = m then none else rib.cacheView n := by
  rw [Rib.cacheView, del_cache rib m f hc, AList.lookup_erase]; split <;> rfl

/-- The step of looking `m` up after a list of keys has been erased: erasing `k` first, when `b` says whether `m` is
    among the others. -/
theorem ite_any_cons {β : Type} (k m : Nat) (b : Bool) (x : Option β) :
    (if b then none else if m = k then none else x) = if (k == m || b) then none else x := by
  by_cases h : k = m
  · subst h; simp
  · simp [h, Ne.symm h]

theorem delRoutes_cacheView (rs : List Route) (rib : Rib) (hc : rib.cacheOn = true) (n : Nat) :
    (rib.delRoutes rs).cacheView n = if rs.any (·.nlri == n) then none else rib.cacheView n := by
  induction rs generalizing rib with
  | nil => rfl
  | cons r t ih =>
    show ((rib.del r.nlri r.fam).delRoutes t).cacheView n = _
    rw [ih (rib.del r.nlri r.fam) hc, del_cacheView _ _ _ hc, List.any_cons, ite_any_cons]

theorem snapEff_updateRib (rib : Rib) (r : Route) (incl : Bool) (n : Nat) (v : Val) :
    snapEff (rib.updateRib r) incl n v = if n = r.nlri then some (r.attr, r.nh) else snapEff rib incl n v := by
  unfold snapEff
  rw [updateRib_newAnn, AList.lookup_insert]
  by_cases h : n = r.nlri
  · rw [if_pos h, if_pos h]
  · rw [if_neg h, if_neg h]; rfl

theorem snapEff_del (rib : Rib) (m f : Nat) (incl : Bool) (n : Nat) (v : Val) :
    snapEff (rib.del m f) incl n v = if n = m then (if incl then none else v) else snapEff rib incl n v := by
  by_cases h : n = m
  · subst h; cases incl <;> simp [snapEff, Rib.del, effect_ann_filter_self]
  · simp [snapEff, Rib.del, h, effect_ann_filter_ne n m _ _ h]

/-- Queueing for refresh routes that agree with what the entry will be changes nothing. -/
theorem snapEff_resend {rib rib' : Rib} {extra : List Route} {incl : Bool} {n : Nat} {v c : Val}
    (h1 : rib'.newAnn = rib.newAnn) (h2 : rib'.newWd = rib.newWd) (h3 : rib'.refRoutes = rib.refRoutes ++ extra)
    (h : snapEff rib incl n v = c) (hagree : ∀ r ∈ extra, r.nlri = n → some (r.attr, r.nh) = c) :
    snapEff rib' incl n v = c := by
  unfold snapEff at h ⊢
  rw [h1, h2, h3, List.map_append, effect_append]
  cases hl : AList.lookup n rib.newAnn with
  | some r => simpa only [hl] using h
  | none =>
    simp only [hl] at h ⊢
    split
    · rwa [if_pos ‹_›] at h
    · rw [if_neg ‹_›] at h
      rw [h]; exact effect_ann_agree n extra c hagree

structure Base (rib : Rib) : Prop where
  wfAnn : WFMap rib.newAnn
  staleOK : StaleOK rib.stale
  wfCache : WFMap rib.cache
  cacheOn : rib.cacheOn = true
  refCached : ∀ r ∈ rib.refRoutes, AList.lookup r.nlri rib.cache ≠ none

theorem staleOK_updateRib (rib : Rib) (r : Route) (hw : WFMap rib.newAnn) (hs : StaleOK rib.stale) :
    StaleOK (rib.updateRib r).stale := by
  refine staleOK_insert hs _ _ fun x hx => ?_
  cases hp : AList.lookup r.nlri rib.newAnn with
  | none => simp [hp] at hx
  | some p =>
    simp only [hp] at hx
    split at hx
    · exact hs.chain _ x hx
    · rcases List.mem_append.1 (List.mem_filter.1 hx).1 with h | h
      · exact hs.chain _ x h
      · rw [List.mem_singleton.1 h]; exact nlri_of_lookup hw hp

theorem Base.updateRib {rib : Rib} (b : Base rib) (r : Route) : Base (rib.updateRib r) := by
  refine ⟨wfmap_insert b.wfAnn r, staleOK_updateRib rib r b.wfAnn b.staleOK, ?_, b.cacheOn, fun r' hr' => ?_⟩
  · rw [updateRib_cache rib r b.cacheOn]; exact wfmap_insert b.wfCache r
  · rw [updateRib_cache rib r b.cacheOn, AList.lookup_insert]
    split
    · exact Option.some_ne_none _
    · exact b.refCached r' hr'

theorem Base.del {rib : Rib} (b : Base rib) (m f : Nat) : Base (rib.del m f) := by
  refine ⟨wfmap_erase b.wfAnn m, staleOK_erase b.staleOK m, ?_, b.cacheOn, fun r' hr' => ?_⟩
  · rw [del_cache rib m f b.cacheOn]; exact wfmap_erase b.wfCache m
  · obtain ⟨h1, h2⟩ := List.mem_filter.1 hr'
    rw [del_cache rib m f b.cacheOn, AList.lookup_erase_ne (by simpa using h2)]
    exact b.refCached r' h1

theorem mem_cachedRoutes {rib : Rib} {fams : List Nat} {r : Route} (h : r ∈ rib.cachedRoutes fams) :
    r ∈ AList.values rib.cache := (List.mem_filter.1 h).1

theorem cachedRoutes_lookup {rib : Rib} (hw : WFMap rib.cache) {fams : List Nat} {r : Route}
    (h : r ∈ rib.cachedRoutes fams) : AList.lookup r.nlri rib.cache = some r :=
  mem_values_lookup hw (mem_cachedRoutes h)

theorem Base.resend {rib : Rib} (b : Base rib) (e : Bool) (fam : Option Nat) : Base (rib.resend e fam) := by
  refine ⟨b.wfAnn, b.staleOK, b.wfCache, b.cacheOn, fun r hr => ?_⟩
  rcases List.mem_append.1 hr with hr | hr
  · exact b.refCached r hr
  · exact cachedRoutes_lookup b.wfCache hr ▸ Option.some_ne_none _

theorem base_closed : RibClosed Base :=
  .of_updateRib (fun _ r b => b.updateRib r) (fun _ m f b => b.del m f) (fun _ e f b => b.resend e f)
    (fun _ _ _ b => ⟨b.wfAnn, b.staleOK, b.wfCache, b.cacheOn, b.refCached⟩)

/-- The invariant (session up). -/
structure Good (s : Sess) (t : Table) : Prop where
  wfAnn : WFMap s.rib.newAnn
  staleOK : StaleOK s.rib.stale
  wfCache : WFMap s.rib.cache
  cacheOn : s.rib.cacheOn = true
  inv : ∀ n, snapEff s.rib (nextIncl s) n (effect n (s.inflight.getD []) (AList.lookup n t)) = s.rib.cacheView n
  fresh : s.inclWd = false → s.inflight = none → ∀ n, AList.lookup n t = none
  refCached : ∀ r ∈ s.rib.refRoutes, AList.lookup r.nlri s.rib.cache ≠ none

theorem Good.future_effect {s : Sess} {t : Table} (g : Good s t) (n : Nat) :
    effect n (future s) (AList.lookup n t) = s.rib.cacheView n := by
  unfold future
  rw [effect_append, snap_effect _ _ _ _ g.wfAnn g.staleOK]
  exact g.inv n

theorem Good.base {s : Sess} {t : Table} (g : Good s t) : Base s.rib :=
  ⟨g.wfAnn, g.staleOK, g.wfCache, g.cacheOn, g.refCached⟩

theorem Good.of_base {s : Sess} {t : Table} (b : Base s.rib)
    (inv : ∀ n, snapEff s.rib (nextIncl s) n (effect n (s.inflight.getD []) (AList.lookup n t)) = s.rib.cacheView n)
    (fresh : s.inclWd = false → s.inflight = none → ∀ n, AList.lookup n t = none) : Good s t :=
  ⟨b.wfAnn, b.staleOK, b.wfCache, b.cacheOn, inv, fresh, b.refCached⟩

theorem good_closed (infl : Option (List Ev)) (incl : Bool) (t : Table) :
    RibClosed (fun rib => Good ⟨rib, infl, incl⟩ t) := by
  refine .of_updateRib (fun rib r g => ?_) (fun rib m f g => ?_) (fun rib e fam g => ?_)
    (fun rib p m g => .of_base (base_closed.book rib p m g.base) g.inv g.fresh)
  · refine .of_base (g.base.updateRib r) (fun n => ?_) g.fresh
    rw [snapEff_updateRib, updateRib_cacheView rib r g.cacheOn]
    split
    · rfl
    · exact g.inv n
  · refine .of_base (g.base.del m f) (fun n => ?_) g.fresh
    rw [snapEff_del, del_cacheView rib m f g.cacheOn]
    split
    · -- a withdraw is held back only by the first generator of a session: the peer's table is empty
      cases hi : nextIncl ⟨rib.del m f, infl, incl⟩ with
      | true => rfl
      | false =>
        simp only [nextIncl, Bool.or_eq_false_iff, Option.isSome_eq_false_iff, Option.isNone_iff_eq_none] at hi
        simp [hi.2, g.fresh hi.1 hi.2 n]
    · exact g.inv n
  · -- the routes re-sent are the cached ones: they say what the entry will be anyway
    refine .of_base (g.base.resend e fam) (fun n => ?_) g.fresh
    refine snapEff_resend (rib := rib) rfl rfl rfl (g.inv n) fun r hr hrn => ?_
    show _ = rib.cacheView n
    rw [← hrn, Rib.cacheView, cachedRoutes_lookup g.wfCache hr]; rfl

/-- What holds of the RIB at all times (in particular while the session is down). -/
structure Down (rib : Rib) : Prop where
  wfAnn : WFMap rib.newAnn
  staleOK : StaleOK rib.stale
  wfCache : WFMap rib.cache
  cacheOn : rib.cacheOn = true
  annCached : ∀ n r, AList.lookup n rib.newAnn = some r → AList.lookup n rib.cache = some r
  refCached : ∀ r ∈ rib.refRoutes, AList.lookup r.nlri rib.cache ≠ none

theorem Down.base {rib : Rib} (d : Down rib) : Base rib :=
  ⟨d.wfAnn, d.staleOK, d.wfCache, d.cacheOn, d.refCached⟩

theorem Down.of_base {rib : Rib} (b : Base rib)
    (h : ∀ n r, AList.lookup n rib.newAnn = some r → AList.lookup n rib.cache = some r) : Down rib :=
  ⟨b.wfAnn, b.staleOK, b.wfCache, b.cacheOn, h, b.refCached⟩

theorem down_closed : RibClosed Down := by
  refine .of_updateRib (fun rib r d => .of_base (d.base.updateRib r) fun n r' h => ?_)
    (fun rib m f d => .of_base (d.base.del m f) fun n r' h => ?_)
    (fun rib e f d => .of_base (d.base.resend e f) d.annCached)
    (fun rib p m d => .of_base (base_closed.book rib p m d.base) d.annCached)
  · rw [updateRib_cache rib r d.cacheOn, AList.lookup_insert]
    rw [updateRib_newAnn, AList.lookup_insert] at h
    split
    · rwa [if_pos ‹_›] at h
    · rw [if_neg ‹_›] at h; exact d.annCached n r' h
  · rw [del_cache rib m f d.cacheOn, AList.lookup_erase]
    rw [show (rib.del m f).newAnn = AList.erase m rib.newAnn from rfl, AList.lookup_erase] at h
    split
    · rw [if_pos ‹_›] at h; cases h
    · rw [if_neg ‹_›] at h; exact d.annCached n r' h

theorem down_reset (rib : Rib) (hw : WFMap rib.cache) (hc : rib.cacheOn = true) : Down rib.reset :=
  ⟨wfmap_nil, staleOK_nil, hw, hc, fun _ _ h => (nomatch h), fun _ hr => (nomatch hr)⟩

theorem down_init (fams : List Nat) : Down (Rib.init true fams) :=
  down_reset (Rib.init true fams) wfmap_nil rfl

end Exa.Rib
