import ExaModel.Lemmas.Timer
/-!
# M-Timer — a session along a schedule of `_main` iterations (C12)

Hold time `H > 0`: `Inv H s L A` says the session is open, was negotiated with hold time `H`, the last real message
was handed to the hold timer when the clock read `L` ms, the last KEEPALIVE was sent (or the `SendTimer` created)
when it read `A` ms; the bounds on expiry and on KEEPALIVE gaps are inductions over the schedule that carry it.
Then: events other than polls do not matter (`runEv_eq_run`); the wait in OPENCONFIRM (`openConfirm`) by its first
real message; hold time 0 (`Inv0`): no timer, no KEEPALIVE.
-/
namespace Exa.Timer
open Exa.Generated

structure Inv (H : Nat) (s : Sess) (L A : Nat) : Prop where
  opn : s.closed = none
  hold : s.recv.hold = H
  code : s.recv.code = 4
  sub : s.recv.sub = 0
  lastRead : s.recv.lastRead = L / 1000
  ka : s.send.keepalive = H / 3
  lastSent : s.send.lastSent = A / 1000

theorem inv_init (H tR tS : Nat) : Inv H (Sess.init H tR tS) tR tS :=
  ⟨rfl, rfl, rfl, rfl, rfl, rfl, rfl⟩

theorem inv_step (H : Nat) (s : Sess) (L A : Nat) (p : Poll) (hH : H ≠ 0) (inv : Inv H s L A) :
    (p.kind.real = false ∧ L / 1000 + H < p.t / 1000 ∧
        (s.poll p).2 = .notify 4 0 ∧ (s.poll p).1.closed = some (p.t, 4, 0))
    ∨ ((p.kind.real = true ∨ p.t / 1000 ≤ L / 1000 + H) ∧
        ( ((s.poll p).2 = .ka ∧ H / 3 ≠ 0 ∧ A / 1000 + H / 3 ≤ p.t / 1000 ∧
              Inv H (s.poll p).1 (if p.kind.real = true then p.t else L) p.t)
        ∨ ((s.poll p).2 = .idle ∧ (H / 3 = 0 ∨ p.t / 1000 < A / 1000 + H / 3) ∧
              Inv H (s.poll p).1 (if p.kind.real = true then p.t else L) A))) := by
  have hp := poll_pos s p inv.opn (inv.hold ▸ hH)
  rw [inv.hold, inv.lastRead, inv.code, inv.sub] at hp
  by_cases hfire : p.kind.real = false ∧ L / 1000 + H < secs p.t
  · rw [if_pos hfire] at hp
    exact .inl ⟨hfire.1, hfire.2, congrArg Prod.snd hp, congrArg (·.1.closed) hp⟩
  · rw [if_neg hfire] at hp
    have hno : p.kind.real = true ∨ p.t / 1000 ≤ L / 1000 + H := by
      cases hr : p.kind.real
      · exact .inr (Nat.le_of_not_lt fun h => hfire ⟨hr, h⟩)
      · exact .inl rfl
    -- the session that goes on, whatever the `SendTimer` decided
    have next : ∀ A', (s.send.needKa p.t).1.lastSent = A' / 1000 →
        Inv H (s.poll p).1 (if p.kind.real = true then p.t else L) A' := fun A' hA => by
      rw [congrArg Prod.fst hp]
      exact ⟨inv.opn, inv.hold, inv.code, inv.sub, by split <;> rfl, (needKa_keepalive _ _).trans inv.ka, hA⟩
    have hf : (s.poll p).2 = if (s.send.needKa p.t).2 = true then .ka else .idle := congrArg Prod.snd hp
    refine .inr ⟨hno, ?_⟩
    rcases needKa_cases s.send p.t with ⟨h2, hk, hdue, hl⟩ | ⟨h2, hnd, hl⟩
    · rw [inv.ka] at hk
      rw [inv.ka, inv.lastSent] at hdue
      exact .inl ⟨hf.trans (if_pos h2), hk, hdue, next p.t hl⟩
    · rw [inv.ka, inv.lastSent] at hnd
      exact .inr ⟨hf.trans (if_neg (h2 ▸ Bool.false_ne_true)), hnd, next A (hl.trans inv.lastSent)⟩

theorem run_cons_fst (s : Sess) (p : Poll) (ps : List Poll) : (s.run (p :: ps)).1 = ((s.poll p).1.run ps).1 := rfl

theorem run_cons_snd (s : Sess) (p : Poll) (ps : List Poll) :
    (s.run (p :: ps)).2 = (p.t, (s.poll p).2) :: ((s.poll p).1.run ps).2 := rfl

theorem run_closed (s : Sess) (ps : List Poll) (x : Nat × Nat × Nat) (h : s.closed = some x) :
    (s.run ps).1 = s ∧ kaTimes (s.run ps).2 = [] := by
  induction ps with
  | nil => exact ⟨rfl, rfl⟩
  | cons p ps ih =>
    rw [run_cons_fst, run_cons_snd, poll_closed s p (by rw [h]; rfl)]
    exact ih

theorem gaps_split (δ prev : Nat) (pre : List Poll) (p : Poll) (post : List Poll)
    (h : Gaps δ prev (pre ++ p :: post)) : p.t ≤ lastPollMs prev pre + δ := by
  induction pre generalizing prev with
  | nil => exact h.1
  | cons q pre ih => exact ih q.t h.2

theorem kaTimes_cons_ka (t : Nat) (tr : List (Nat × Fired)) : kaTimes ((t, .ka) :: tr) = t :: kaTimes tr := rfl
theorem kaTimes_cons_idle (t : Nat) (tr : List (Nat × Fired)) : kaTimes ((t, .idle) :: tr) = kaTimes tr := rfl
theorem kaTimes_cons_notify (t c sb : Nat) (tr : List (Nat × Fired)) :
    kaTimes ((t, .notify c sb) :: tr) = kaTimes tr := rfl

theorem kaTimes_cons_congr (x : Nat × Fired) {tr tr' : List (Nat × Fired)} (h : kaTimes tr = kaTimes tr') :
    kaTimes (x :: tr) = kaTimes (x :: tr') := by
  rcases x with ⟨t, _ | _ | _ | _⟩ <;> simp only [kaTimes, h]

/-- `inv_step` for a run.  The session ends at the first iteration and no KEEPALIVE follows; or the run
    goes on from a session that satisfies the invariant with the last KEEPALIVE at `A'`: this poll if one
    was due, `A` as before if none was. -/
theorem inv_step_run {H : Nat} (hH : H ≠ 0) {s : Sess} {L A : Nat} (inv : Inv H s L A) (p : Poll) (ps : List Poll) :
    (p.kind.real = false ∧ L / 1000 + H < p.t / 1000 ∧ (s.run (p :: ps)).1.closed = some (p.t, 4, 0) ∧
      kaTimes (s.run (p :: ps)).2 = []) ∨
    ((p.kind.real = true ∨ p.t / 1000 ≤ L / 1000 + H) ∧
      ∃ A', Inv H (s.poll p).1 (if p.kind.real = true then p.t else L) A' ∧
        ((A' = p.t ∧ H / 3 ≠ 0 ∧ A / 1000 + H / 3 ≤ p.t / 1000 ∧
            kaTimes (s.run (p :: ps)).2 = p.t :: kaTimes ((s.poll p).1.run ps).2) ∨
         (A' = A ∧ (H / 3 = 0 ∨ p.t / 1000 < A / 1000 + H / 3) ∧
            kaTimes (s.run (p :: ps)).2 = kaTimes ((s.poll p).1.run ps).2))) := by
  rw [run_cons_snd, run_cons_fst]
  rcases inv_step H s L A p hH inv with ⟨hr, hlt, hf, hcl⟩ | ⟨hno, ⟨hf, hk, hdue, i⟩ | ⟨hf, hnd, i⟩⟩
  · have hc := run_closed _ ps _ hcl
    exact .inl ⟨hr, hlt, by rw [hc.1, hcl], by rw [hf, kaTimes_cons_notify, hc.2]⟩
  · exact .inr ⟨hno, _, i, .inl ⟨rfl, hk, hdue, by rw [hf]; rfl⟩⟩
  · exact .inr ⟨hno, _, i, .inr ⟨rfl, hnd, by rw [hf]; rfl⟩⟩

theorem closed_split (H : Nat) (hH : H ≠ 0) (ps : List Poll) (s : Sess) (L A : Nat) (inv : Inv H s L A)
    (t c sb : Nat) (hc : (s.run ps).1.closed = some (t, c, sb)) :
    ∃ pre p post, ps = pre ++ p :: post ∧ p.t = t ∧ c = 4 ∧ sb = 0 ∧ p.kind.real = false ∧
      lastRealMs L pre + H * 1000 < t ∧ (s.run pre).1.closed = none := by
  induction ps generalizing s L A with
  | nil => rw [show (s.run []).1 = s from rfl, inv.opn] at hc; cases hc
  | cons p ps ih =>
    rcases inv_step_run hH inv p ps with ⟨hr, hlt, hcl, _⟩ | ⟨_, A', i, _⟩
    · rw [hcl] at hc
      cases hc
      exact ⟨[], p, ps, rfl, rfl, rfl, rfl, hr, ms_lt_of_secs_lt hlt, inv.opn⟩
    · obtain ⟨pre, q, post, e, h1, h2, h3, h4, h5, h6⟩ := ih _ _ _ i hc
      exact ⟨p :: pre, q, post, by rw [e]; rfl, h1, h2, h3, h4, h5, h6⟩

theorem open_silence_lt (H : Nat) (hH : H ≠ 0) (ps : List Poll) (s : Sess) (L A prev : Nat)
    (inv : Inv H s L A) (hprev : prev < L + (H + 1) * 1000)
    (ho : (s.run ps).1.closed = none) :
    lastPollMs prev ps < lastRealMs L ps + (H + 1) * 1000 := by
  induction ps generalizing s L A prev with
  | nil => exact hprev
  | cons p ps ih =>
    rcases inv_step_run hH inv p ps with ⟨_, _, hcl, _⟩ | ⟨hno, A', i, _⟩
    · rw [hcl] at ho; cases ho
    · refine ih _ _ _ p.t i ?_ ho
      split
      · exact Nat.lt_add_of_pos_right (by omega)
      · next hr => exact ms_lt_of_secs_lt_add (Nat.lt_succ_of_le (hno.resolve_left hr))

theorem expired_of_silence (H : Nat) (hH : H ≠ 0) (ps : List Poll) (s : Sess) (L A prev : Nat)
    (inv : Inv H s L A) (hne : ps ≠ [])
    (hs : lastRealMs L ps + (H + 1) * 1000 ≤ lastPollMs prev ps) :
    (s.run ps).1.closed ≠ none := by
  -- the contrapositive of `open_silence_lt`; the poll before a non-empty schedule does not matter
  cases ps with
  | nil => exact absurd rfl hne
  | cons p ps =>
    intro ho
    have := open_silence_lt H hH (p :: ps) s L A L inv (Nat.lt_add_of_pos_right (by omega)) ho
    exact Nat.lt_irrefl _ (Nat.lt_of_lt_of_le this hs)

theorem third_ne_zero {H : Nat} (hH : 3 ≤ H) : H / 3 ≠ 0 ∧ H ≠ 0 := by omega

theorem ka_adj_lt (H δ : Nat) (hH : 3 ≤ H) (ps : List Poll) (s : Sess) (L A prev : Nat)
    (inv : Inv H s L A) (hprev : prev / 1000 < A / 1000 + H / 3) (hg : Gaps δ prev ps) :
    AdjLt (H / 3 * 1000 + δ) (A :: kaTimes (s.run ps).2) := by
  induction ps generalizing s L A prev with
  | nil => exact trivial
  | cons p ps ih =>
    rcases inv_step_run (third_ne_zero hH).2 inv p ps with ⟨_, _, _, hk⟩ | ⟨_, _, i, ⟨rfl, hk3, _, hk⟩ | ⟨rfl, hnd, hk⟩⟩
    · rw [hk]; exact trivial
    · rw [hk]
      have hlt : p.t < A + H / 3 * 1000 + δ :=
        Nat.lt_of_le_of_lt hg.1 (Nat.add_lt_add_right (ms_lt_of_secs_lt_add hprev) δ)
      exact ⟨Nat.add_assoc .. ▸ hlt, ih _ _ _ p.t i (Nat.lt_add_of_pos_right (Nat.pos_of_ne_zero hk3)) hg.2⟩
    · rw [hk]
      exact ih _ _ _ p.t i (hnd.resolve_left (third_ne_zero hH).1) hg.2

theorem ka_adj_gt (H : Nat) (hH : H ≠ 0) (ps : List Poll) (s : Sess) (L A : Nat)
    (inv : Inv H s L A) :
    AdjGt ((H / 3 - 1) * 1000) (A :: kaTimes (s.run ps).2) := by
  induction ps generalizing s L A with
  | nil => exact trivial
  | cons p ps ih =>
    rcases inv_step_run hH inv p ps with ⟨_, _, _, hk⟩ | ⟨_, _, i, ⟨rfl, hk3, hdue, hk⟩ | ⟨rfl, _, hk⟩⟩
    · rw [hk]; exact trivial
    · rw [hk]
      exact ⟨ms_lt_of_secs_lt (Nat.lt_of_lt_of_le (Nat.add_lt_add_left (Nat.sub_one_lt hk3) _) hdue), ih _ _ _ i⟩
    · rw [hk]; exact ih _ _ _ i

theorem ka_fresh (H : Nat) (hH : 3 ≤ H) (ps : List Poll) (s : Sess) (L A prev : Nat)
    (inv : Inv H s L A) (hprev : prev / 1000 < A / 1000 + H / 3)
    (ho : (s.run ps).1.closed = none) :
    lastPollMs prev ps < lastOr A (kaTimes (s.run ps).2) + H / 3 * 1000 := by
  induction ps generalizing s L A prev with
  | nil => exact ms_lt_of_secs_lt_add hprev
  | cons p ps ih =>
    rcases inv_step_run (third_ne_zero hH).2 inv p ps with ⟨_, _, hcl, _⟩ | ⟨_, _, i, ⟨rfl, hk3, _, hk⟩ | ⟨rfl, hnd, hk⟩⟩
    · rw [hcl] at ho; cases ho
    · rw [hk]
      exact ih _ _ _ p.t i (Nat.lt_add_of_pos_right (Nat.pos_of_ne_zero hk3)) ho
    · rw [hk]
      exact ih _ _ _ p.t i (hnd.resolve_left (third_ne_zero hH).1) ho

theorem runEv_eq_run (s : Sess) (evs : List Ev) :
    (s.runEv evs).1 = (s.run (pollsOf evs)).1 ∧
    kaTimes (s.runEv evs).2 = kaTimes (s.run (pollsOf evs)).2 := by
  induction evs generalizing s with
  | nil => exact ⟨rfl, rfl⟩
  | cons e es ih =>
    cases e with
    | poll p =>
      obtain ⟨h1, h2⟩ := ih (s.poll p).1
      exact ⟨h1, kaTimes_cons_congr _ h2⟩
    | out t k => exact ih s

theorem establish_eq (l p tR tS : Nat) : Sess.establish l p tR tS = Sess.init (min l p) tR tS := rfl

theorem openConfirmNotify_eq : TimerTable.openConfirmNotify = (4, 0) := rfl
theorem openConfirmUnexpected_eq : TimerTable.openConfirmUnexpected = (5, 2) := rfl

theorem openConfirm_of_none (H tW now : Nat) {arrivals : List Poll} (hf : firstReal arrivals = none) :
    openConfirm H tW arrivals now =
      if H ≠ 0 ∧ tW + H * 1000 ≤ now then .notify (tW + H * 1000) 4 0 else .waiting := by
  unfold openConfirm; rw [hf]; rfl

theorem openConfirm_of_some (H tW now : Nat) {arrivals : List Poll} {p : Poll} (hf : firstReal arrivals = some p) :
    openConfirm H tW arrivals now =
      if H ≠ 0 ∧ tW + H * 1000 < p.t then .notify (tW + H * 1000) 4 0
      else if H ≠ 0 ∧ p.t = tW + H * 1000 then .race (tW + H * 1000)
      else if p.kind.isKeepalive = true then .established p.t
      else .notify p.t 5 2 := by
  unfold openConfirm; rw [hf]; rfl

theorem firstReal_eq_find (ps : List Poll) : firstReal ps = ps.find? (·.kind.real) := by
  fun_induction firstReal ps with
  | case1 => rfl
  | case2 _ _ hr => rw [List.find?_cons_of_pos (p := fun q : Poll => q.kind.real) hr]
  | case3 _ _ hr ih => rw [List.find?_cons_of_neg (p := fun q : Poll => q.kind.real) hr, ih]

theorem firstReal_mem (ps : List Poll) (p : Poll) (h : firstReal ps = some p) : p ∈ ps ∧ p.kind.real = true := by
  rw [firstReal_eq_find] at h
  exact ⟨List.mem_of_find?_eq_some h, List.find?_some (p := fun q : Poll => q.kind.real) h⟩

theorem firstReal_none (ps : List Poll) (h : firstReal ps = none) : ∀ q ∈ ps, q.kind.real = false := by
  rw [firstReal_eq_find] at h
  simpa using h

theorem mono_ge (prev : Nat) (ps : List Poll) (h : Mono prev ps) : ∀ q ∈ ps, prev ≤ q.t := by
  induction ps generalizing prev with
  | nil => exact nofun
  | cons p ps ih =>
    exact List.forall_mem_cons.2 ⟨h.1, fun q hq => Nat.le_trans h.1 (ih p.t h.2 q hq)⟩

theorem firstReal_le (prev : Nat) (ps : List Poll) (hm : Mono prev ps) (p : Poll) (h : firstReal ps = some p) :
    ∀ q ∈ ps, q.kind.real = true → p.t ≤ q.t := by
  fun_induction firstReal ps generalizing prev with
  | case1 => cases h
  | case2 r rs =>
    cases h
    exact List.forall_mem_cons.2 ⟨fun _ => Nat.le_refl _, fun q hq _ => mono_ge _ rs hm.2 q hq⟩
  | case3 r rs hr ih => exact List.forall_mem_cons.2 ⟨fun h' => absurd h' hr, ih r.t hm.2 h⟩

theorem inv_afterOpenConfirm (l p tC a tS : Nat) (hH : min l p ≠ 0) :
    Inv (min l p) (Sess.afterOpenConfirm l p tC a tS) a tS := by
  unfold Sess.afterOpenConfirm
  rw [checkKaTimer_real _ a Kind.keepalive hH rfl]
  exact ⟨rfl, rfl, rfl, rfl, rfl, rfl, rfl⟩

structure Inv0 (s : Sess) : Prop where
  opn : s.closed = none
  hold : s.recv.hold = 0
  ka : s.send.keepalive = 0

theorem inv0_init (tR tS : Nat) : Inv0 (Sess.init 0 tR tS) ∧ (Sess.init 0 tR tS).recv.single = false :=
  ⟨⟨rfl, rfl, rfl⟩, rfl⟩

theorem h0_run (ps : List Poll) (s : Sess) (inv : Inv0 s) :
    kaTimes (s.run ps).2 = [] ∧
    (∀ t c sb, (s.run ps).1.closed = some (t, c, sb) → c = 2 ∧ sb = 6) ∧
    ((s.run ps).1.closed ≠ none ↔ 2 ≤ kaCount ps + (if s.recv.single = true then 1 else 0)) := by
  induction ps generalizing s with
  | nil =>
    rw [show s.run [] = (s, []) from rfl, inv.opn]
    exact ⟨rfl, nofun, by cases s.recv.single <;> simp [kaCount]⟩
  | cons p ps ih =>
    rw [run_cons_fst, run_cons_snd]
    have hp := poll_zero s p inv.opn inv.hold inv.ka
    by_cases hfire : p.kind.isKeepalive = true ∧ s.recv.single = true
    · rw [if_pos hfire] at hp
      have hcl : (s.poll p).1.closed = some (p.t, 2, 6) := by rw [hp]; rfl
      have hr := run_closed _ ps _ hcl
      rw [hr.1, hcl, congrArg Prod.snd hp, kaTimes_cons_notify, hr.2]
      exact ⟨rfl, fun t c sb h => by cases h; exact ⟨rfl, rfl⟩, by simp [kaCount, hfire.1, hfire.2]⟩
    · rw [if_neg hfire] at hp
      obtain ⟨h1, h2, h3⟩ := ih (s.poll p).1 (by rw [hp]; exact ⟨inv.opn, inv.hold, inv.ka⟩)
      rw [congrArg Prod.snd hp, kaTimes_cons_idle, h3, show (s.poll p).1.recv.single = (s.recv.single || p.kind.isKeepalive) by rw [hp]]
      refine ⟨h1, h2, ?_⟩
      -- a KEEPALIVE now is the first one: it is counted in `single` from here on
      cases hk : p.kind.isKeepalive <;> cases hs : s.recv.single
      · simp [kaCount, hk]
      · simp [kaCount, hk]
      · simp [kaCount, hk, Nat.add_comm]
      · exact absurd ⟨hk, hs⟩ hfire
end Exa.Timer
