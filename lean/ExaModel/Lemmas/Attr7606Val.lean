/-
  M-Attr7606, value level: what the repaired value decoders accept is well-formed by the RFC syntax
  (`valOutcome allFix … = .ok → wfVal …`), and codes outside `specCodes` are never malformed by value or flags.
-/
import ExaModel.Model.Attr7606
import ExaModel.Lemmas.WireAttr

namespace Exa.Attr7606
open Exa Exa.Wire
open Exa.Generated.AttrTable (Row)

theorem exaParseSegs_repaired (w4 : Bool) : ∀ (f : Nat) (v : Bytes), exaParseSegs true w4 f v = decSegs w4 f v
  | 0, [] | _ + 1, [] | 0, _ :: _ | _ + 1, [_] => rfl
  | f + 1, t :: c :: r => by
    have e : (t = 0 ∨ t > 4 ∨ c = 0) ↔ ((t = 0 ∨ t > 4) ∨ c = 0) := by omega
    simp only [exaParseSegs, decSegs, exaParseSegs_repaired w4 f, and_true, e]
    by_cases h : t = 0 ∨ t > 4
    · rw [if_pos h, if_pos (.inl h)]
    · rw [if_neg h]; by_cases h2 : c = 0
      · rw [if_pos h2, if_pos (.inr h2)]
      · rw [if_neg h2, if_neg (by omega)]; rfl

theorem exaSegs_eq_isSome (seg0 w4 : Bool) (f : Nat) (v : Bytes) :
    exaSegs seg0 w4 f v = (exaParseSegs seg0 w4 f v).isSome := by
  fun_induction exaParseSegs seg0 w4 f v <;> simp [exaSegs, *]

theorem exaSegs_repaired (w4 : Bool) (f : Nat) (v : Bytes) : exaSegs true w4 f v = (decSegs w4 f v).isSome := by
  rw [exaSegs_eq_isSome, exaParseSegs_repaired]

theorem exaMpReach_ok {xp : XP} {v : Bytes} (h : exaMpReach xp v = .ok) :
    5 ≤ v.length ∧ 5 + v.getD 3 0 ≤ v.length := by
  revert h
  fun_cases exaMpReach xp v <;> intro h <;> cases h
  omega

theorem exaMpUnreach_ok {xp : XP} {v : Bytes} (h : exaMpUnreach xp v = .ok) : 3 ≤ v.length := by
  revert h
  fun_cases exaMpUnreach xp v <;> intro h <;> cases h
  omega

/-- The repaired value decoders accept only RFC-well-formed values (non-emptiness of the list-valued
    attributes is the caller's zero-length test). -/
theorem valOutcome_wfVal (xp : XP) (code : Nat) (v : Bytes)
    (hok : valOutcome allFix xp code v = .ok) (hne : code ∈ mustNonEmpty → v ≠ []) :
    wfVal xp.p code v = true := by
  revert hok
  fun_cases valOutcome allFix xp code v <;> intro hok <;> try cases hok
  -- left: the branches that answer `ok`, each under the tests passed on the way, and the two MP decoders
  case case19 h => subst h; exact decide_eq_true (exaMpReach_ok hok)  -- code 14: MP_REACH_NLRI
  case case20 h => subst h; exact decide_eq_true (exaMpUnreach_ok hok)  -- code 15: MP_UNREACH_NLRI
  case case4 h hv | case23 h hv => subst h; rw [List.isEmpty_iff] at hv; subst hv; rfl  -- codes 2, 17: empty path
  case case5 h _ hs | case24 h _ hs =>  -- codes 2, 17: the segment walk accepted
    subst h
    obtain ⟨ss, hss⟩ := Option.isSome_iff_exists.1 ((exaSegs_repaired ..).symm.trans hs)
    simp [wfVal, decVal_asPath, decVal_as4Path, nonEmptyCodes, hss]
  case case10 h _ =>  -- codes 4, 5, 9: four octets
    rcases h with rfl | rfl | rfl <;> simp [wfVal, decVal_med, decVal_localPref, decVal_originatorId, nonEmptyCodes, *]
  -- the other leaves stand under a literal code, where `wfVal` is the length or range test `decVal` makes (and
  -- `v ≠ []`); `simp` finds it among the tests passed where both spell it alike, `grind` derives it where not
  all_goals
    subst code
    simp [mustNonEmpty, nonEmptyCodes] at hne
    simp [wfVal, decVal_origin, decVal_nextHop, decVal_atomicAggregate, decVal_aggregator, decVal_communities,
      decVal_clusterList, decVal_extCommunities, decVal_as4Aggregator, decVal_largeCommunities, nonEmptyCodes, *] <;> grind

theorem flagSpecX_none (code : Nat) (hc : code ∉ specCodes) : flagSpecX code = none := by
  have h25 : code ≠ 25 := fun h => hc (h ▸ by decide)
  rw [flagSpecX, if_neg h25, flagSpec, List.lookup_eq_none_iff]
  intro e he
  have : e.1 ∈ specCodes := (by decide : ∀ e ∈ specTable, e.1 ∈ specCodes) e he
  exact bne_iff_ne.2 fun h => hc (h ▸ this)

theorem wfAttr_of_not_spec (p : Params) (code flag : Nat) (v : Bytes) (hc : code ∉ specCodes) :
    wfAttr p code flag v = true := by
  have hf := flagSpecX_none code hc
  simp only [specCodes, List.mem_cons, List.mem_nil_iff, or_false, not_or] at hc
  simp [wfAttr, flagsOk, hf, wfVal, decVal, nonEmptyCodes, hc]

end Exa.Attr7606
