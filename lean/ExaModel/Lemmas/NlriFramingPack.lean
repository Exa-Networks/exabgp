import ExaModel.Lemmas.NlriFraming
set_option linter.unusedVariables false
/-! The packed-bytes-first contract: re-encoding what was decoded from canonical bytes gives the
    bytes back. `Canonical` names, per framing kind, the inputs for which this is true of the code
    as it is (everything else is a non-canonical encoding, or one of the findings). -/
namespace Exa.Framing
open Exa Exa.Generated.Registry

/-- Canonical wire form of ONE NLRI of a framing kind (beyond being accepted by the splitter). -/
def Canonical (k : Kind) (c : Cfg) (b : Bytes) : Prop :=
  match k with
  | .flow => WFBytes b ∧ (b.getD 0 0 < 240 ∨ (b.getD 0 0 = 240 ∧ 240 ≤ b.getD 1 0))  -- shortest length form
  | .vpls => WFBytes b ∧ rd16 b = 17         -- no trailing bytes after the 17 known ones
  | .rtc => b.getD 5 0 < 64                  -- the two high bits of the route-target type are clear
  | _ => True

theorem take2_of_rd16 (b : Bytes) (hw : WFBytes b) (hl : 2 ≤ b.length) (n : Nat) (h : rd16 b = n) :
    b.take 2 = be16 n := by
  rcases b with _ | ⟨x, _ | ⟨y, t⟩⟩
  · simp at hl
  · simp at hl
  · have := be16_rd16 x y (hw x (by simp)) (hw y (by simp))
    subst h
    simp only [rd16, List.getD_cons_zero, List.getD_cons_succ] at this ⊢
    exact this.symm

theorem pack_flow {c : Cfg} {b : Bytes} {cut : Cut} (h : split .flow c b = some cut) (hr : cut.rest = [])
    (hc : Canonical .flow c b) : pack .flow cut.stored = some b := by
  obtain ⟨hwf, hc⟩ := hc
  rcases splitFlowWith_eq_some h with ⟨b0, t, rfl, h15, hle, rfl⟩ | ⟨b0, b1, t, rfl, h15, hle, rfl⟩
  · simp only [List.getD_cons_zero] at hc
    have hs : b0 < 240 := hc.resolve_right fun e => h15 (e.1 ▸ rfl)
    have hlen : t.length = b0 := Nat.le_antisymm (List.drop_eq_nil_iff.1 hr) hle
    simp only [pack, List.take_of_length_le (Nat.le_of_eq hlen)]
    rw [flowFrame_small t (hlen ▸ hs), hlen]
  · simp only [List.getD_cons_zero, List.getD_cons_succ] at hc
    obtain ⟨rfl, h1⟩ := hc.resolve_left fun hlt => flow_short_byte hlt h15
    have hb1 : b1 < 256 := hwf b1 (by simp)
    rw [show 240 % 16 * 2 ^ flowShift + b1 = b1 by rw [show 240 % 16 = 0 from rfl, Nat.zero_mul, Nat.zero_add]]
      at hle hr ⊢
    have hlen : t.length = b1 := Nat.le_antisymm (List.drop_eq_nil_iff.1 hr) hle
    simp only [pack, List.take_of_length_le (Nat.le_of_eq hlen)]
    rw [flowFrame_big t (hlen ▸ h1) (by omega), hlen, Nat.div_eq_of_lt hb1, Nat.mod_eq_of_lt hb1]

theorem pack_vpls {c : Cfg} {b : Bytes} {cut : Cut} (h : split .vpls c b = some cut)
    (hc : Canonical .vpls c b) : pack .vpls cut.stored = some b := by
  obtain ⟨hw, hc⟩ := hc
  obtain ⟨_, hl, rfl⟩ := splitVpls_eq_some h
  simp only [pack]
  rw [List.take_of_length_le (by simp; omega), ← take2_of_rd16 b hw (by omega) 17 hc, List.take_append_drop]

theorem pack_rtc {c : Cfg} {b : Bytes} {cut : Cut} (h : split .rtc c b = some cut) (hr : cut.rest = [])
    (hc : Canonical .rtc c b) : pack .rtc cut.stored = some b := by
  rcases splitRtc_eq_some h with ⟨t, rfl, rfl⟩ | ⟨hl, rfl⟩
  · subst hr; rfl
  · have hlen : b.length = 13 := Nat.le_antisymm (List.drop_eq_nil_iff.1 hr) hl
    have h5 : 5 < b.length := by omega
    have hg : resetFlags (b.getD 5 0) = b[5] := by
      have : b.getD 5 0 = b[5] := by simp [List.getD_eq_getElem?_getD, h5]
      have hc : b.getD 5 0 < 64 := hc
      rw [resetFlags, Nat.mod_eq_of_lt hc, this]
    have h7 : (b.drop 6).take 7 = b.drop 6 := List.take_of_length_le (by simp; omega)
    simp only [pack, hg, h7, List.append_assoc, List.singleton_append, List.getElem_cons_drop h5,
      List.take_append_drop]

theorem pack_srPolicy {c : Cfg} {b : Bytes} {cut : Cut} (h : split .srPolicy c b = some cut) (hr : cut.rest = []) :
    pack .srPolicy cut.stored = some b := by
  obtain ⟨t, rfl, hle, rfl⟩ := splitSrPolicy_eq_some h
  have h8 : srPolicyBits c.afi / 8 * 8 = srPolicyBits c.afi := by
    unfold srPolicyBits; rw [Nat.mul_div_cancel _ (by decide)]
  have hlen : t.length = srPolicyBits c.afi / 8 := by
    have := List.drop_eq_nil_iff.1 hr
    rw [List.length_cons] at this; omega
  simp only [pack, List.take_of_length_le (Nat.le_of_eq hlen), hlen, h8]

theorem pack_split (k : Kind) (c : Cfg) (b : Bytes) (cut : Cut) (h : split k c b = some cut)
    (hr : cut.rest = []) (hc : Canonical k c b) : pack k cut.stored = some b := by
  cases k
  case flow => exact pack_flow h hr hc
  case vpls => exact pack_vpls h hc
  case rtc => exact pack_rtc h hr hc
  case srPolicy => exact pack_srPolicy h hr
  all_goals
    -- the slice is kept whole, and it is the whole input
    obtain ⟨n, rfl⟩ := split_whole (by simp) h
    have : b.take n = b := by simpa [show b.drop n = [] from hr] using List.take_append_drop n b
    simp only [pack, this]

end Exa.Framing
