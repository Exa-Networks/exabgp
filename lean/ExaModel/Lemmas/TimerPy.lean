import ExaModel.Model.Timer
import ExaModel.Generated.PyTimer
/-!
# M-Timer — the hand-written model computes what the translated Python computes

`Generated/PyTimer.lean` is `exabgp/bgp/timer.py` translated statement by statement on every run
(`harness/pylite.py`); the theorems here relate it to `Model/Timer.lean`, about which the
property theorems of C12 are stated.  Python integers are `Int` there and `Nat` in the model:
the embedding is the cast, and the only subtraction whose sign matters (`now - last_read`,
`last_sent + keepalive - now`) is compared, never stored.

The closed forms of the translated methods are proved by cases on the model's conditions; what is left of the
translated term is split `if` by `if` and each leaf is closed by the hypotheses and linear arithmetic, so the proofs
do not depend on how timer.py spells or orders its tests.
-/
namespace Exa.Timer
open Exa.Generated Exa.Generated.PyTimer

/-! The `if self.last_print != now` of both methods only guards a log line: on either branch
`last_print` is `now` afterwards, so the closed forms do not mention the test. -/

theorem check_ka_timer_eq (st : ReceiveTimerSt) (ty sched now : Int) :
    ReceiveTimer.check_ka_timer st ty sched now =
      if st.holdtime = 0 then .ret (ty != 4) st
      else if st.holdtime < now - (if sched = 0 then now else st.last_read) then .raise st.code st.subcode
      else .ret true { st with last_read := if sched = 0 then now else st.last_read, last_print := now } := by
  obtain ⟨h, lp, lr, c, sc, sg⟩ := st
  unfold ReceiveTimer.check_ka_timer
  by_cases h0 : h = 0
  · simp [h0]
  · rcases Decidable.em (lp = now) with rfl | hp
    · by_cases hs : sched = 0 <;> simp [h0, hs] <;> (repeat' split) <;> simp [*] <;> omega
    · have hp' : ¬now = lp := fun e => hp e.symm
      by_cases hs : sched = 0 <;> simp [*] <;> (repeat' split) <;> simp [*] <;> omega

theorem need_ka_eq (st : SendTimerSt) (now : Int) :
    SendTimer.need_ka st now =
      if st.keepalive = 0 then .ret false st
      else if st.last_sent + st.keepalive - now ≤ 0 then .ret true ⟨st.keepalive, now, now⟩
      else .ret false ⟨st.keepalive, now, st.last_sent⟩ := by
  obtain ⟨k, lp, ls⟩ := st
  unfold SendTimer.need_ka
  by_cases h0 : k = 0
  · simp [h0]
  · rcases Decidable.em (now = lp) with rfl | hp
    · simp [h0] <;> (repeat' split) <;> simp [*] <;> omega
    · have hp' : ¬lp = now := fun e => hp e.symm
      simp [*] <;> (repeat' split) <;> simp [*] <;> omega

def Recv.toPy (r : Recv) : ReceiveTimerSt :=
  { holdtime := r.hold, last_print := r.lastPrint, last_read := r.lastRead, code := r.code, subcode := r.sub,
    single := r.single }

def Send.toPy (s : Send) : SendTimerSt :=
  { keepalive := s.keepalive, last_print := s.lastPrint, last_sent := s.lastSent }

/-- a model result as a result of the translated method (a raise carries no state) -/
def liftRecvTimer : Recv × Res Bool → PyRes ReceiveTimerSt Bool
  | (r, .ret b) => .ret b r.toPy
  | (_, .raise c s) => .raise c s

def liftRecvKa : Recv × Option (Nat × Nat) → PyRes ReceiveTimerSt Unit
  | (r, none) => .ret () r.toPy
  | (_, some (c, s)) => .raise c s

def liftSend : Send × Bool → PyRes SendTimerSt Bool
  | (s, b) => .ret b s.toPy

theorem bne_cast (a b : Nat) : ((a : Int) != (b : Int)) = !(a == b) := by
  rw [Bool.eq_iff_iff]; simp [Int.natCast_inj]

theorem py_check_ka_timer_eq_model (r : Recv) (nowMs : Nat) (k : Kind) :
    ReceiveTimer.check_ka_timer r.toPy k.type k.sched (secs nowMs) = liftRecvTimer (r.checkKaTimer nowMs k) := by
  rw [check_ka_timer_eq]
  unfold Recv.checkKaTimer
  by_cases h0 : r.hold = 0
  · rw [if_pos h0, if_pos (show r.toPy.holdtime = 0 by simp [Recv.toPy, h0])]
    exact congrArg (PyRes.ret · r.toPy) (bne_cast k.type 4)
  · rw [if_neg h0, if_neg (show ¬ r.toPy.holdtime = 0 by simp [Recv.toPy, h0])]
    by_cases hs : k.sched = 0
    · simp [Kind.real, hs, liftRecvTimer, Recv.toPy]
    · -- the one comparison whose operands are differences: the same over `Int` as truncated over `Nat`
      have he : (r.hold : Int) < (secs nowMs : Int) - r.lastRead ↔ r.hold < secs nowMs - r.lastRead := by omega
      by_cases h : r.hold < secs nowMs - r.lastRead <;> simp [Kind.real, hs, liftRecvTimer, Recv.toPy, he, h]

end Exa.Timer
