import ExaModel.Model.WireNlri
import ExaModel.Lemmas.WireWalk
/-! Round trip of the NLRI codecs of M-Wire: `decNlri (encNlri n ++ rest) = ok (n, rest)` for every
    well-formed NLRI (path id, label stack, withdraw label, RD, prefix) and the list walk. -/
namespace Exa.Wire
open Exa

@[simp] theorem be24_length (n : Nat) : (be24 n).length = 3 := rfl

theorem rd24_be24 (n : Nat) (h : n < 16777216) (rest : Bytes) : rd24 (be24 n ++ rest) = n := by
  show n / 65536 % 256 * 65536 + n / 256 % 256 * 256 + n % 256 = n
  omega

theorem wf_be24 (n : Nat) : WFBytes (be24 n) := by
  intro b hb
  simp only [be24, List.mem_cons, List.not_mem_nil, or_false] at hb
  rcases hb with rfl | rfl | rfl <;> exact Nat.mod_lt _ (by decide)

theorem drop3_be24 (n : Nat) (rest : Bytes) : (be24 n ++ rest).drop 3 = rest := rfl

theorem decStack_succ (n : Nat) (bs : Bytes) : decStack (n + 1) bs =
    if bs.length < 3 then none
    else if rd24 bs % 2 = 1 then some ([rd24 bs / 16], bs.drop 3)
    else match decStack n (bs.drop 3) with
      | some (ls, rest) => some (rd24 bs / 16 :: ls, rest)
      | none => none := rfl

/-- One stack entry: the label in the high 20 bits, the bottom-of-stack bit on the last one. -/
theorem encStack_cons (l : Nat) (t : List Nat) :
    encStack (l :: t) = be24 (l * 16 + if t = [] then 1 else 0) ++ encStack t := by
  cases t with
  | nil => exact (List.append_nil _).symm
  | cons l' t' => rfl

theorem encStack_length (ls : List Nat) : (encStack ls).length = 3 * ls.length := by
  induction ls with
  | nil => rfl
  | cons l t ih => rw [encStack_cons, List.length_append, be24_length, ih, List.length_cons]; omega

theorem wf_encStack (ls : List Nat) : WFBytes (encStack ls) := by
  induction ls with
  | nil => exact wfBytes_nil
  | cons l t ih => rw [encStack_cons]; exact wfBytes_append (wf_be24 _) ih

theorem rd24_encStack (l : Nat) (t : List Nat) (hl : l < 1048576) (rest : Bytes) :
    rd24 (encStack (l :: t) ++ rest) = if t = [] then l * 16 + 1 else l * 16 := by
  rw [encStack_cons, List.append_assoc, rd24_be24 _ (by split <;> omega)]
  split <;> rfl

theorem decStack_encStack (ls : List Nat) (hne : ls ≠ []) (hl : ∀ l ∈ ls, l < 1048576) (rest : Bytes)
    (n : Nat) (hn : ls.length ≤ n) : decStack n (encStack ls ++ rest) = some (ls, rest) := by
  induction ls generalizing n with
  | nil => exact absurd rfl hne
  | cons l t ih =>
    have hlt : l < 1048576 := hl l List.mem_cons_self
    cases n with
    | zero => simp at hn
    | succ m =>
      rw [decStack_succ, rd24_encStack l t hlt, encStack_cons, List.append_assoc, drop3_be24,
        if_neg (by simp)]
      by_cases ht : t = []
      · subst ht
        rw [if_pos rfl, if_pos (by omega), show (l * 16 + 1) / 16 = l by omega]; rfl
      · rw [if_neg ht, if_neg (by omega),
          ih ht (fun x hx => hl x (List.mem_cons_of_mem _ hx)) m (by simpa using hn),
          Nat.mul_div_cancel _ (by decide)]

theorem decPathId_enc (ap : Bool) (pid : Option Nat) (h : pid.isSome = ap)
    (hb : ∀ i, pid = some i → i < 4294967296) (rest : Bytes) :
    decPathId ap (encPathId pid ++ rest) = .ok (pid, rest) := by
  cases pid with
  | none => cases h; rfl
  | some i =>
    cases h
    show (if (be32 i ++ rest).length < 4 then Except.error (3, 10)
      else Except.ok (some (rd32 (be32 i ++ rest)), (be32 i ++ rest).drop 4)) = _
    rw [if_neg (by simp), rd32_be32 i (hb i rfl)]
    rfl

theorem labelField_nolabel {safi : Nat} (h : ¬ hasLabel safi = true) (wd : Bool) (ls : List Nat) :
    labelField safi wd ls = [] := if_neg h

theorem labelField_wd_nil {safi : Nat} (h : hasLabel safi = true) : labelField safi true [] = be24 wdLabel := by
  rw [labelField, if_pos h]; rfl

theorem labelField_cons {safi : Nat} (h : hasLabel safi = true) (wd : Bool) (l : Nat) (t : List Nat) :
    labelField safi wd (l :: t) = encStack (l :: t) := by
  rw [labelField, if_pos h, List.isEmpty_cons, Bool.and_false, if_neg Bool.false_ne_true]

theorem decLabels_enc (safi : Nat) (wd : Bool) (ls : List Nat) (rdl plen : Nat) (rest : Bytes)
    (h0 : hasLabel safi = false → ls = [])
    (h1 : hasLabel safi = true → wd = false → ls ≠ [])
    (h2 : ∀ l ∈ ls, l < 1048576)
    (h3 : wd = true → ∀ l t, ls = l :: t → t ≠ [] → l ≠ 524288)
    (hrd : rdl * 8 = rdBits safi) :
    decLabels safi wd ((labelField safi wd ls).length * 8 + rdl * 8 + plen) (labelField safi wd ls ++ rest) =
      .ok (ls, (labelField safi wd ls).length * 8, rest) := by
  by_cases hL : hasLabel safi = true
  · cases ls with
    | nil =>
      -- only possible in a withdrawal: the compatibility field
      obtain rfl : wd = true := by
        cases wd with
        | true => rfl
        | false => exact absurd rfl (h1 hL rfl)
      rw [labelField_wd_nil hL, decLabels, if_pos hL,
        if_pos ⟨rfl, by simp, rd24_be24 _ (by decide) rest, by rw [be24_length]; omega⟩]
      rfl
    | cons l t =>
      have hlt : l < 1048576 := h2 l List.mem_cons_self
      have c : ¬ (wd = true ∧ 3 ≤ (encStack (l :: t) ++ rest).length ∧ rd24 (encStack (l :: t) ++ rest) = wdLabel ∧
          rdBits safi + 24 ≤ (encStack (l :: t)).length * 8 + rdl * 8 + plen) := by
        rintro ⟨hw, _, hr, _⟩
        rw [rd24_encStack l t hlt] at hr
        by_cases ht : t = []
        · rw [if_pos ht, wdLabel] at hr; omega
        · rw [if_neg ht, wdLabel] at hr
          exact h3 hw l t rfl ht (by omega)
      rw [labelField_cons hL, decLabels, if_pos hL, if_neg c,
        decStack_encStack (l :: t) (List.cons_ne_nil _ _) h2 rest _ (by rw [encStack_length]; omega), encStack_length,
        show 3 * (l :: t).length * 8 = 24 * (l :: t).length by omega]
  · rw [labelField_nolabel hL, decLabels, if_neg hL, h0 (Bool.eq_false_iff.2 hL)]
    rfl

theorem rdBits_div_mul (safi : Nat) : rdBits safi / 8 * 8 = rdBits safi := by
  unfold rdBits; split <;> rfl

theorem decRdPrefix_enc (afi safi : Nat) (pid : Option Nat) (ls : List Nat) (rd pfx : Bytes) (plen : Nat)
    (rest : Bytes) (hrd : rd.length = rdBits safi / 8) (hp : plen ≤ maxBits afi)
    (hpl : pfx.length = prefixBytes plen) :
    decRdPrefix afi safi pid ls (rd.length * 8 + plen) (rd ++ (pfx ++ rest)) =
      .ok ({ pathId := pid, labels := ls, rd := rd, plen := plen, pfx := pfx }, rest) := by
  have hb : rd.length * 8 = rdBits safi := by rw [hrd, rdBits_div_mul]
  unfold decRdPrefix
  rw [hb, Nat.add_sub_cancel_left, ← hrd, if_neg (Nat.not_lt.2 (Nat.le_add_right _ _)),
    if_neg (by rw [List.length_append]; omega), if_neg (Nat.not_lt.2 hp), List.drop_left', List.take_left',
    ← hpl, if_neg (by rw [List.length_append]; omega), List.drop_left', List.take_left']
  all_goals rfl

theorem decNlri_encNlri (afi safi : Nat) (ap wd : Bool) (n : Nlri) (h : WFNlri afi safi ap wd n) (rest : Bytes) :
    decNlri afi safi ap wd (encNlri safi wd n ++ rest) = .ok (n, rest) := by
  obtain ⟨hp, hpb, h0, h1, h2, h3, hrd, hpl, hpx, hlen⟩ := h
  have hrd8 : n.rd.length * 8 = rdBits safi := by rw [hrd, rdBits_div_mul]
  unfold decNlri encNlri
  rw [List.append_assoc, decPathId_enc ap n.pathId hp hpb]
  simp only [List.cons_append, List.append_assoc]
  rw [decLabels_enc safi wd n.labels n.rd.length n.plen (n.rd ++ (n.pfx ++ rest)) h0 h1 h2 h3 hrd8]
  simp only
  rw [if_neg (by omega), Nat.add_assoc, Nat.add_sub_cancel_left,
    decRdPrefix_enc afi safi n.pathId n.labels n.rd n.pfx n.plen rest hrd hpl hpx]

theorem encNlri_length_pos (safi : Nat) (wd : Bool) (n : Nlri) : 0 < (encNlri safi wd n).length := by
  rw [encNlri, List.length_append, List.length_cons]; omega

theorem decNlris_eq_walk (afi safi : Nat) (ap wd : Bool) :
    decNlris afi safi ap wd = walk (decNlri afi safi ap wd) (3, 10) := by
  funext f bs
  fun_induction walk (decNlri afi safi ap wd) (3, 10) f bs <;> simp only [decNlris, *]

theorem encNlris_eq_flatMap (safi : Nat) (wd : Bool) (ns : List Nlri) :
    encNlris safi wd ns = ns.flatMap (encNlri safi wd) := by
  induction ns with
  | nil => rfl
  | cons n t ih => rw [encNlris, ih, List.flatMap_cons]

theorem decNlris_encNlris (afi safi : Nat) (ap wd : Bool) (ns : List Nlri)
    (h : ∀ n ∈ ns, WFNlri afi safi ap wd n) (fuel : Nat) (hf : (encNlris safi wd ns).length ≤ fuel) :
    decNlris afi safi ap wd fuel (encNlris safi wd ns) = .ok ns := by
  rw [encNlris_eq_flatMap] at hf ⊢
  rw [decNlris_eq_walk]
  exact walk_enc _ ns (fun n hn => ⟨List.ne_nil_of_length_pos (encNlri_length_pos safi wd n),
    decNlri_encNlri afi safi ap wd n (h n hn)⟩) fuel hf

end Exa.Wire
