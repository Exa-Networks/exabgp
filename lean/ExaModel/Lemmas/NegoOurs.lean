import ExaModel.Lemmas.NegoSpec
/-! What the OPEN we send advertises (`Capabilities.new`), stated on the views the RFCs negotiate on. -/
namespace Exa.Open

theorem mem_ite_nil {α : Type} (p : Prop) [Decidable p] (l : List α) (x : α) :
    x ∈ (if p then l else []) ↔ p ∧ x ∈ l := by
  by_cases h : p <;> simp [h]

/-- `Capabilities.new`, block by block: what each configuration switch puts into the OPEN. -/
theorem mem_ourCaps (cfg : Cfg) (c : Cap) :
    c ∈ ourCaps cfg ↔
      (∃ f ∈ cfg.families, c = .mp f.1 f.2)
      ∨ (cfg.asn4 = true ∧ c = .asn4 cfg.localAs)
      ∨ (cfg.nexthopOn = true ∧ c = .nexthop (nexthopAllowed.filter (fun t => cfg.nexthops.contains t)))
      ∨ (cfg.addPath ≠ 0 ∧
          c = .addpath ((addPathAllowed.filter (fun f => cfg.addpaths.contains f)).map (famTriple cfg.addPath)))
      ∨ ((cfg.addPath ≠ 0 ∧ ourPathsLimit cfg ≠ []) ∧ c = .pathsLimit (ourPathsLimit cfg))
      ∨ (∃ t, cfg.graceful = some t ∧
          c = .graceful 0 (restartTime cfg t % 4096) (cfg.families.map (famTriple 128)))
      ∨ (cfg.routeRefresh = true ∧ (c = .refresh ∨ c = .enhanced))
      ∨ (cfg.operational = true ∧ c = .operational)
      ∨ (cfg.extMsg = true ∧ c = .extMsg)
      ∨ (cfg.host ≠ [] ∧ c = .hostname (cfg.host.take 64) (cfg.domain.take 64))
      ∨ (cfg.software = true ∧ c = .software cfg.swVersion)
      ∨ (cfg.linkLocal = true ∧ c = .linkLocal)
      ∨ (cfg.multiSession = true ∧ (c = .multisession false [0] ∨ c = .multisession false [1])) := by
  have hh : c ∈ (if cfg.host.isEmpty then [] else [Cap.hostname (cfg.host.take 64) (cfg.domain.take 64)]) ↔
      cfg.host ≠ [] ∧ c = .hostname (cfg.host.take 64) (cfg.domain.take 64) := by
    cases cfg.host <;> simp
  simp only [ourCaps, List.mem_append, hh, mem_ite_nil, List.mem_map, List.mem_cons, List.not_mem_nil, or_false, or_assoc,
    eq_comm (b := c)]
  cases cfg.graceful <;> simp

theorem ourCaps_mp (cfg : Cfg) (a s : Nat) : Cap.mp a s ∈ ourCaps cfg ↔ (a, s) ∈ cfg.families := by
  simp [mem_ourCaps]

theorem ourCaps_refresh (cfg : Cfg) : Cap.refresh ∈ ourCaps cfg ↔ cfg.routeRefresh = true := by
  simp [mem_ourCaps]

theorem ourCaps_enhanced (cfg : Cfg) : Cap.enhanced ∈ ourCaps cfg ↔ cfg.routeRefresh = true := by
  simp [mem_ourCaps]

theorem ourCaps_extMsg (cfg : Cfg) : Cap.extMsg ∈ ourCaps cfg ↔ cfg.extMsg = true := by
  simp [mem_ourCaps]

theorem ourCaps_operational (cfg : Cfg) : Cap.operational ∈ ourCaps cfg ↔ cfg.operational = true := by
  simp [mem_ourCaps]

theorem ourCaps_linkLocal (cfg : Cfg) : Cap.linkLocal ∈ ourCaps cfg ↔ cfg.linkLocal = true := by
  simp [mem_ourCaps]

theorem ourCaps_asn4_mem (cfg : Cfg) (v : Nat) : Cap.asn4 v ∈ ourCaps cfg ↔ cfg.asn4 = true ∧ v = cfg.localAs := by
  simp [mem_ourCaps]

theorem ourCaps_nexthop_mem (cfg : Cfg) (es : List Triple) :
    Cap.nexthop es ∈ ourCaps cfg ↔
      cfg.nexthopOn = true ∧ es = nexthopAllowed.filter (fun t => cfg.nexthops.contains t) := by
  simp [mem_ourCaps]

theorem ourCaps_addpath_mem (cfg : Cfg) (es : List Triple) :
    Cap.addpath es ∈ ourCaps cfg ↔
      cfg.addPath ≠ 0 ∧ es = (addPathAllowed.filter (fun f => cfg.addpaths.contains f)).map (famTriple cfg.addPath) := by
  simp [mem_ourCaps]

theorem ourCaps_pathsLimit_mem (cfg : Cfg) (es : List Triple) :
    Cap.pathsLimit es ∈ ourCaps cfg ↔ cfg.addPath ≠ 0 ∧ ourPathsLimit cfg ≠ [] ∧ es = ourPathsLimit cfg := by
  simp [mem_ourCaps, and_assoc]

theorem ourCaps_graceful_mem (cfg : Cfg) (fl t : Nat) (fams : List Triple) :
    Cap.graceful fl t fams ∈ ourCaps cfg ↔
      ∃ rt, cfg.graceful = some rt ∧ fl = 0 ∧ t = restartTime cfg rt % 4096 ∧ fams = cfg.families.map (famTriple 128) := by
  simp [mem_ourCaps]

theorem ourCaps_hostname_mem (cfg : Cfg) (h d : Bytes) :
    Cap.hostname h d ∈ ourCaps cfg ↔ cfg.host ≠ [] ∧ h = cfg.host.take 64 ∧ d = cfg.domain.take 64 := by
  simp [mem_ourCaps]

theorem ourCaps_software_mem (cfg : Cfg) (v : Bytes) :
    Cap.software v ∈ ourCaps cfg ↔ cfg.software = true ∧ v = cfg.swVersion := by
  simp [mem_ourCaps]

theorem ourCaps_multisession_mem (cfg : Cfg) (c : Bool) (v : Bytes) :
    Cap.multisession c v ∈ ourCaps cfg ↔ cfg.multiSession = true ∧ c = false ∧ (v = [0] ∨ v = [1]) := by
  simp [mem_ourCaps, ← and_or_left]

theorem ourCaps_refreshCisco (cfg : Cfg) : Cap.refreshCisco ∉ ourCaps cfg := by
  simp [mem_ourCaps]

theorem ourCaps_unknown (cfg : Cfg) (c : Nat) (v : Bytes) : Cap.unknown c v ∉ ourCaps cfg := by
  simp [mem_ourCaps]

theorem mem_ourPathsLimit (cfg : Cfg) (a s l : Nat) :
    (a, s, l) ∈ ourPathsLimit cfg ↔
      ((a, s), l) ∈ cfg.pathsLimit ∧ (a, s) ∈ addPathAllowed ∧ (a, s) ∈ cfg.addpaths ∧ cfg.addPath % 2 = 1 ∧ 0 < l := by
  simp only [ourPathsLimit, List.mem_map, List.mem_filter, Bool.and_eq_true, List.contains_iff_mem,
    decide_eq_true_eq, Prod.mk.injEq]
  constructor
  · rintro ⟨⟨⟨a', s'⟩, l'⟩, ⟨h1, ⟨⟨h2, h3⟩, h4⟩, h5⟩, rfl, rfl, rfl⟩
    exact ⟨h1, h2, h3, h4, h5⟩
  · rintro ⟨h1, h2, h3, h4, h5⟩
    exact ⟨((a, s), l), ⟨h1, ⟨⟨h2, h3⟩, h4⟩, h5⟩, rfl, rfl, rfl⟩

theorem ourCaps_isMs (cfg : Cfg) : (ourCaps cfg).any (isMs false) = cfg.multiSession ∧ (ourCaps cfg).any (isMs true) = false := by
  constructor
  · rw [Bool.eq_iff_iff, any_isMs_iff]
    simp only [ourCaps_multisession_mem, true_and]
    exact ⟨fun ⟨_, h, _⟩ => h, fun h => ⟨[0], h, Or.inl rfl⟩⟩
  · rw [Bool.eq_false_iff, Ne, any_isMs_iff]
    exact fun ⟨v, hv⟩ => nomatch ((ourCaps_multisession_mem cfg true v).1 hv).2.1

theorem ourCaps_asn4Of (cfg : Cfg) : asn4Of (ourCaps cfg) = if cfg.asn4 then some cfg.localAs else none := by
  rcases asn4Of_cases (ourCaps cfg) with ⟨h0, hn⟩ | ⟨w, hw, e⟩
  · rw [h0, if_neg (fun h => hn _ ((ourCaps_asn4_mem cfg _).2 ⟨h, rfl⟩))]
  · rw [e, if_pos ((ourCaps_asn4_mem cfg w).1 hw).1, ((ourCaps_asn4_mem cfg w).1 hw).2]

theorem ourCaps_nexthopOf (cfg : Cfg) (x : Triple) :
    x ∈ nexthopOf (ourCaps cfg) ↔ cfg.nexthopOn = true ∧ x ∈ nexthopAllowed ∧ x ∈ cfg.nexthops := by
  simp only [mem_nexthopOf, ourCaps_nexthop_mem]
  exact ⟨fun ⟨_, ⟨h1, e⟩, h2⟩ => ⟨h1, by simpa [e, List.mem_filter] using h2⟩,
    fun ⟨h1, h2, h3⟩ => ⟨_, ⟨h1, rfl⟩, by simp [List.mem_filter, h2, h3]⟩⟩

theorem ourCaps_addpathEntries (cfg : Cfg) (e : Triple) :
    e ∈ addpathEntries (ourCaps cfg) ↔
      cfg.addPath ≠ 0 ∧ (e.1, e.2.1) ∈ addPathAllowed ∧ (e.1, e.2.1) ∈ cfg.addpaths ∧ e.2.2 = cfg.addPath := by
  simp only [mem_addpathEntries, ourCaps_addpath_mem]
  constructor
  · rintro ⟨es, ⟨h0, rfl⟩, he⟩
    simp only [List.mem_map, List.mem_filter, List.contains_iff_mem, famTriple] at he
    obtain ⟨g, ⟨h1, h2⟩, rfl⟩ := he
    exact ⟨h0, h1, h2, rfl⟩
  · rintro ⟨h0, h1, h2, h3⟩
    refine ⟨_, ⟨h0, rfl⟩, ?_⟩
    simp only [List.mem_map, List.mem_filter, List.contains_iff_mem, famTriple]
    exact ⟨(e.1, e.2.1), ⟨h1, h2⟩, by rw [← h3]⟩

theorem ourCaps_srOf (cfg : Cfg) (f : Family) :
    srOf (ourCaps cfg) f =
      if cfg.addPath ≠ 0 ∧ f ∈ addPathAllowed ∧ f ∈ cfg.addpaths then cfg.addPath else 0 := by
  rcases srOf_cases (ourCaps cfg) f with ⟨h0, hn⟩ | ⟨e, he, hf, hv⟩
  · rw [h0, if_neg]
    exact fun hc => hn (f.1, f.2, cfg.addPath) ((ourCaps_addpathEntries cfg _).2 ⟨hc.1, hc.2.1, hc.2.2, rfl⟩) rfl
  · have := (ourCaps_addpathEntries cfg e).1 he
    rw [hv, this.2.2.2, if_pos ⟨this.1, hf ▸ this.2.1, hf ▸ this.2.2.1⟩]

/-- The multisession verdict for the OPEN we send (it never carries the Cisco variant). -/
theorem negotiate_ours_multisession (cfg : Cfg) (t : OpenMsg) :
    (negotiate (ourOpen cfg) t).multisession =
      if cfg.multiSession = true then
        if t.caps.any (isMs false) = true then
          if some ((capSet (ourOpen cfg).caps).mp.getD []) ≠ (capSet t.caps).mp then .err 2 8 else .yes
        else .err 2 9
      else .no := by
  rw [negotiate_multisession, show (ourOpen cfg).caps = ourCaps cfg from rfl, (ourCaps_isMs cfg).1, (ourCaps_isMs cfg).2]
  cases cfg.multiSession <;> cases t.caps.any (isMs false) <;> rfl

end Exa.Open
