import ExaModel.Model.DecodeCache
import ExaModel.Lemmas.RibBasic
/-!
M-DecodeCache: a keyed cache whose key determines the computed value (on the
inputs that occur) is transparent; a class attribute rewritten on dispatch is harmless iff no
class is registered under two codes.
-/
namespace Exa.DecodeCache
open Exa

section
variable {κ ρ ι : Type} [DecidableEq κ]

/-- The key is sound on a universe `U` of inputs: two inputs of the universe with the same key
    compute the same value — required only for values that are stored and served. -/
def SoundKeyOn (U : ι → Prop) (pol : Policy ρ) (keyOf : ι → κ) (compute : ι → ρ) : Prop :=
  ∀ i j, U i → U j → keyOf i = keyOf j →
    pol.effect (compute i) = .put → pol.servable (compute i) = true → compute j = compute i

/-- Every stored entry is the value computed from an input of the universe with that key, and
    was stored by `put`. -/
def Inv (U : ι → Prop) (pol : Policy ρ) (keyOf : ι → κ) (compute : ι → ρ) (st : Store κ ρ) : Prop :=
  ∀ k r, AList.lookup k st = some r → ∃ i, U i ∧ keyOf i = k ∧ compute i = r ∧ pol.effect r = .put

theorem inv_nil (U : ι → Prop) (pol : Policy ρ) (keyOf : ι → κ) (compute : ι → ρ) :
    Inv U pol keyOf compute ([] : Store κ ρ) := by
  intro k r h; simp at h

theorem inv_after {U : ι → Prop} {pol : Policy ρ} {keyOf : ι → κ} {compute : ι → ρ} {st : Store κ ρ}
    (h : Inv U pol keyOf compute st) (i : ι) (hi : U i) :
    Inv U pol keyOf compute (Store.after pol st (keyOf i) (compute i)) := by
  fun_cases Store.after pol st (keyOf i) (compute i) with
  | case1 => exact h
  | case2 => exact inv_nil U pol keyOf compute
  | case3 he _ =>
    intro k r hk
    rw [AList.lookup] at hk
    split at hk
    · cases hk; exact ⟨i, hi, ‹_›, rfl, he⟩
    · cases hk
  | case4 he _ =>
    intro k r hk
    rw [AList.lookup_insert] at hk
    split at hk
    · cases hk; exact ⟨i, hi, .symm ‹_›, rfl, he⟩
    · exact h k r hk

theorem access_sound {U : ι → Prop} {pol : Policy ρ} {keyOf : ι → κ} {compute : ι → ρ} {st : Store κ ρ}
    (hk : SoundKeyOn U pol keyOf compute) (h : Inv U pol keyOf compute st) (i : ι) (hi : U i) :
    (access pol st (keyOf i) (compute i)).2.1 = compute i ∧
      Inv U pol keyOf compute (access pol st (keyOf i) (compute i)).1 := by
  fun_cases access pol st (keyOf i) (compute i) with
  | case1 r hl hs =>
    -- served: the entry was computed from an input with the same key
    obtain ⟨j, hj, hkj, rfl, hej⟩ := h _ _ hl
    exact ⟨(hk j i hj hi hkj hej hs).symm, h⟩
  | case2 | case3 => exact ⟨rfl, inv_after h i hi⟩

/-- **Transparency of a soundly keyed cache**: over any history of inputs of the universe, from
    any store satisfying the invariant, every access yields what computing from scratch yields. -/
theorem run_transparent {U : ι → Prop} {pol : Policy ρ} {keyOf : ι → κ} {compute : ι → ρ}
    (hk : SoundKeyOn U pol keyOf compute) (is : List ι) (st : Store κ ρ) (h : Inv U pol keyOf compute st)
    (hu : ∀ i ∈ is, U i) : (run pol keyOf compute st is).2 = is.map compute := by
  fun_induction run pol keyOf compute st is with
  | case1 => rfl
  | case2 st i t a r ih =>
    obtain ⟨h1, h2⟩ := access_sound hk h i (hu i List.mem_cons_self)
    rw [List.map_cons, ← h1, ← ih h2 fun j hj => hu j (List.mem_cons_of_mem _ hj)]

theorem run_length (pol : Policy ρ) (keyOf : ι → κ) (compute : ι → ρ) (is : List ι) :
    ∀ st : Store κ ρ, (run pol keyOf compute st is).2.length = is.length := by
  intro st
  fun_induction run pol keyOf compute st is with
  | case1 => rfl
  | case2 st i t a r ih => exact congrArg (· + 1) ih

theorem after_single_length {pol : Policy ρ} (hs : pol.single = true) (st : Store κ ρ) (k : κ) (fresh : ρ)
    (h : st.length ≤ 1) : (Store.after pol st k fresh).length ≤ 1 := by
  fun_cases Store.after pol st k fresh with
  | case1 => exact h
  | case2 => exact Nat.zero_le 1
  | case3 => exact Nat.le_refl 1
  | case4 _ hn => exact absurd hs hn

theorem access_single_length {pol : Policy ρ} (hs : pol.single = true) (st : Store κ ρ) (k : κ) (fresh : ρ)
    (h : st.length ≤ 1) : (access pol st k fresh).1.length ≤ 1 := by
  fun_cases access pol st k fresh with
  | case1 => exact h
  | case2 | case3 => exact after_single_length hs st k fresh h

end

section
variable {ρ δ : Type}

/-- **What a sound key must contain.** The parse of a block whose result is stored and served
    depends on the negotiated parameters only through `dep`. -/
def Parser.DependsOnlyOn (P : Parser ρ) (dep : Params → δ) : Prop :=
  ∀ p p' bs, dep p = dep p' →
    (P.kind (P.parse p bs)).effect = .put → (P.kind (P.parse p bs)).truthy = true →
    P.parse p' bs = P.parse p bs

/-- the name this hypothesis has in DESIGN.md -/
abbrev parse_depends_only_on (P : Parser ρ) (dep : Params → δ) : Prop := P.DependsOnlyOn dep

theorem soundKey_full {P : Parser ρ} (hd : P.DependsOnlyOn Params.attrKey) :
    SoundKeyOn (fun _ => True) P.policy keyFull (fun x : Params × Bytes => P.parse x.1 x.2) := by
  rintro ⟨p, bs⟩ ⟨p', bs'⟩ _ _ hk he hs
  obtain ⟨rfl, hp⟩ := Prod.mk.inj hk
  exact hd p p' bs hp he hs

theorem soundKey_bytes_on {P : Parser ρ} {dep : Params → δ} (hd : P.DependsOnlyOn dep)
    (h : List (Params × Bytes)) (hagree : ∀ x ∈ h, ∀ y ∈ h, dep x.1 = dep y.1) :
    SoundKeyOn (fun x => x ∈ h) P.policy keyBytes (fun x : Params × Bytes => P.parse x.1 x.2) := by
  rintro ⟨p, bs⟩ ⟨p', bs'⟩ hi hj (rfl : bs = bs') he hs
  exact hd p p' bs (hagree _ hi _ hj) he hs

end

/-- every value in the register is a code registered for that class -/
def RegInv (table : AList Nat Nat) (r : Reg) : Prop :=
  ∀ cls v, AList.lookup cls r = some v → AList.lookup v table = some cls

theorem regInv_nil (table : AList Nat Nat) : RegInv table [] := by
  intro cls v h; simp at h

theorem regInv_dispatch {table : AList Nat Nat} {r : Reg} (h : RegInv table r) (c : Nat) :
    RegInv table (dispatch table r c).1 := by
  fun_cases dispatch table r c with
  | case2 => exact h
  | case1 k hl =>
    intro cls v hv
    rw [AList.lookup_insert] at hv
    split at hv
    · cases hv; subst cls; exact hl
    · exact h cls v hv

/-- under `SingleCode`, a class's entry never changes once written -/
theorem reg_stable_dispatch {table : AList Nat Nat} (hs : SingleCode table) {r : Reg} (h : RegInv table r)
    {cls v : Nat} (hv : AList.lookup cls r = some v) (c : Nat) :
    AList.lookup cls (dispatch table r c).1 = some v := by
  fun_cases dispatch table r c with
  | case2 => exact hv
  | case1 k hl =>
    rw [AList.lookup_insert]
    split
    · subst cls; rw [hs c v k hl (h k v hv)]
    · exact hv

theorem reg_stable {table : AList Nat Nat} (hs : SingleCode table) (cs : List Nat) (r : Reg) (h : RegInv table r)
    (cls v : Nat) (hv : AList.lookup cls r = some v) : AList.lookup cls (dispatchAll table r cs).1 = some v := by
  fun_induction dispatchAll table r cs with
  | case1 => exact hv
  | case2 r c t d rest ih => exact ih (regInv_dispatch h c) (reg_stable_dispatch hs h hv c)

theorem dispatch_inst {table : AList Nat Nat} {r : Reg} {c : Nat} {i : Inst}
    (h : (dispatch table r c).2 = some i) :
    i.code = c ∧ AList.lookup c table = some i.cls ∧ AList.lookup i.cls (dispatch table r c).1 = some c := by
  revert h
  fun_cases dispatch table r c with
  | case2 => exact fun h => nomatch h
  | case1 k hl => rintro ⟨⟩; exact ⟨rfl, hl, AList.lookup_insert_self ..⟩

/-- **A rewrite on dispatch is harmless when no class has two codes**: after any history, every
    instance ever returned still reads the code it was decoded from. -/
theorem dispatchAll_currentID {table : AList Nat Nat} (hs : SingleCode table) (dflt : Nat) (cs : List Nat)
    (r : Reg) (h : RegInv table r) (i : Inst) (hi : some i ∈ (dispatchAll table r cs).2) :
      Inst.currentID (dispatchAll table r cs).1 dflt i = i.code := by
  fun_induction dispatchAll table r cs with
  | case1 => cases hi
  | case2 r c t d rest ih =>
    rcases List.mem_cons.1 hi with hi | hi
    · obtain ⟨h1, _, h3⟩ := dispatch_inst hi.symm
      rw [Inst.currentID, reg_stable hs t _ (regInv_dispatch h c) i.cls c h3, h1]; rfl
    · exact ih (regInv_dispatch h c) hi

/-- decidable form of `SingleCode` -/
def singleCodeB (table : AList Nat Nat) : Bool :=
  table.all (fun x => table.all (fun y => x.2 != y.2 || x.1 == y.1))

theorem singleCodeB_sound {table : AList Nat Nat} (h : singleCodeB table = true) : SingleCode table := by
  intro c c' k h1 h2
  have m1 := AList.mem_of_lookup h1
  have m2 := AList.mem_of_lookup h2
  simp only [singleCodeB, List.all_eq_true] at h
  have := h _ m1 _ m2
  simpa using this

end Exa.DecodeCache
