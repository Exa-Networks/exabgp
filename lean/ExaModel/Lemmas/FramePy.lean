import ExaModel.Model.Frame
import ExaModel.Generated.PyFrame
/-!
# M-Frame — the header decision of the model is the translated Python

`Generated/PyFrame.lean` is the decision `Connection.reader_async` takes on a complete header, translated
statement by statement on every run (`harness/pylite.py`, `harness/tables/pyframe.py`).  Its inputs are the four
things the source reads off the header (`header[:16] != Message.MARKER`, `header[18]`, the big-endian length,
`validator(length)`); here they are instantiated with what M-Frame reads off the same 19 octets, the validator with
the generated per-type table, and the result is compared with `Frame.hdrErr`.
-/
namespace Exa.Frame
open Exa Exa.Generated Exa.Generated.PyFrame Exa.Generated.MsgLength

/-- the model's verdict on a header as a result of the translated method -/
def liftHdr (max : Nat) (bs : Bytes) : PyRes ConnectionSt (Int × Int) :=
  match hdrErr max bs with
  | some (c, s) => .raise c s
  | none => .ret ((hdrLen bs : Int), (hdrTy bs : Int)) ⟨max⟩

/-- The translated decision on inputs that are naturals, by the model's three tests in the model's order.  The proof
    splits on the model's conditions, never on the generated term, and gives each comparison in both spellings the
    translation may use (`a < b`, `¬ b ≤ a`), so that a rewrite of the Python that keeps the meaning still proves. -/
theorem py_header_nat (max len ty : Nat) (bad ok : Bool) :
    Connection.reader_async_header ⟨max⟩ bad ty len ok =
      if bad then .raise 1 1 else if len < 19 ∨ len > max then .raise 1 2
      else if ¬ ok ∧ ty ≠ 3 then .raise 1 2 else .ret ((len : Int), (ty : Int)) ⟨max⟩ := by
  unfold Connection.reader_async_header
  cases bad
  case true => simp
  by_cases h1 : len < 19
  · have a : (len : Int) < 19 ∧ ¬ (19 : Int) ≤ len := by omega
    simp [h1, a]
  have a : ¬ (len : Int) < 19 ∧ (19 : Int) ≤ len := by omega
  by_cases h2 : len > max
  · have b : (max : Int) < len ∧ ¬ (len : Int) ≤ max := by omega
    simp [h1, h2, a, b]
  have b : ¬ (max : Int) < len ∧ (len : Int) ≤ max := by omega
  by_cases h3 : ty = 3
  · simp [h1, h2, h3, a, b]
  have c : ¬ (ty : Int) = 3 := by omega
  cases ok <;> simp [h1, h2, h3, a, b, c]

theorem py_header_eq_model (max : Nat) (bs : Bytes) :
    Connection.reader_async_header ⟨max⟩ (decide (bs.take 16 ≠ marker)) (hdrTy bs) (hdrLen bs)
      (lengthValid (hdrTy bs) (hdrLen bs)) = liftHdr max bs := by
  rw [py_header_nat]
  unfold liftHdr hdrErr headerLen notificationType
  by_cases hm : bs.take 16 ≠ marker
  · rw [if_pos (decide_eq_true hm), if_pos hm]; rfl
  rw [if_neg (by simpa using hm), if_neg hm]
  by_cases hl : hdrLen bs < 19 ∨ hdrLen bs > max
  · rw [if_pos hl, if_pos hl]; rfl
  rw [if_neg hl, if_neg hl]
  split <;> rfl

/-- The reader goes on to read `length - 19` octets of body exactly when the model has no header error. -/
theorem py_header_reads_body_iff (max : Nat) (bs : Bytes) :
    (∃ v st, Connection.reader_async_header ⟨max⟩ (decide (bs.take 16 ≠ marker)) (hdrTy bs) (hdrLen bs)
      (lengthValid (hdrTy bs) (hdrLen bs)) = .ret v st) ↔ hdrErr max bs = none := by
  rw [py_header_eq_model]
  unfold liftHdr
  cases hdrErr max bs with
  | none => simp
  | some cs => simp

end Exa.Frame
