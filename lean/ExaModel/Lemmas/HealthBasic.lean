import ExaModel.Model.Health
/-! Helper lemmas for M-Health: streaks (`trailing`), runs, the two directions of the automaton and
    one iteration of `one` by kind of input and place of the state. -/
namespace Exa.Health

theorem trailing_nil {α : Type} (p : α → Bool) : trailing p [] = 0 := rfl

theorem trailing_snoc {α : Type} (p : α → Bool) (l : List α) (x : α) :
    trailing p (l ++ [x]) = if p x then trailing p l + 1 else 0 := by
  unfold trailing
  rw [List.reverse_append, List.reverse_singleton, List.singleton_append, List.takeWhile_cons]
  split <;> rfl

theorem trailing_window {α : Type} (p : α → Bool) (l : List α) (n : Nat) (h : n ≤ trailing p l) :
    ∃ before window, l = before ++ window ∧ window.length = n ∧ ∀ x ∈ window, p x = true := by
  -- read backwards, the window is the first `n` of the longest prefix satisfying `p`
  refine ⟨((l.reverse.takeWhile p).drop n ++ l.reverse.dropWhile p).reverse,
    ((l.reverse.takeWhile p).take n).reverse, ?_, ?_, fun x hx => ?_⟩
  · rw [← List.reverse_append, ← List.append_assoc, List.take_append_drop,
      List.takeWhile_append_dropWhile, List.reverse_reverse]
  · rw [List.length_reverse, List.length_take]
    exact Nat.min_eq_left h
  · exact List.all_eq_true.1 List.all_takeWhile x (List.mem_of_mem_take (List.mem_reverse.1 hx))

theorem Run.from_append (c : Cfg) (r : Run) (a b : List Inp) :
    Run.from c r (a ++ b) = Run.from c (Run.from c r a) b := by
  simp [Run.from, List.foldl_append]

theorem run_snoc (c : Cfg) (pre : List Inp) (i : Inp) :
    run c (pre ++ [i]) = (run c pre).step c i := by
  simp [run, Run.from, List.foldl_append]

theorem run_nil (c : Cfg) : run c [] = {} := rfl

/-! ## the two directions

The automaton is symmetric in successes and failures.  `true` is the direction of successes
(RISING, UP, counted against `rise`), `false` that of failures (FALLING, DOWN, `fall`). -/

def mid : Bool → St | true => .rising | false => .falling
def top : Bool → St | true => .up | false => .down
def Cfg.thr (c : Cfg) : Bool → Int | true => c.rise | false => c.fall
/-- the inputs that count in direction `d` -/
def Inp.hit (c : Cfg) : Bool → Inp → Bool | true => Inp.good c | false => Inp.bad c

theorem Inp.hit_iff {c : Cfg} {d : Bool} {i : Inp} :
    i.hit c d = true ↔ i.disabled c = false ∧ i.ok = d := by
  cases d <;> simp [Inp.hit, Inp.good, Inp.bad]

theorem Inp.hit_ok {c : Cfg} {i : Inp} (h : i.disabled c = false) : i.hit c i.ok = true :=
  Inp.hit_iff.2 ⟨h, rfl⟩

theorem top_inj {a b : Bool} : top a = top b ↔ a = b := by cases a <;> cases b <;> decide
theorem mid_ne_top (a b : Bool) : mid a ≠ top b := by cases a <;> cases b <;> decide

theorem St.dir_cases (d : Bool) (t : St) :
    t = .disabled ∨ t = mid d ∨ t = top d ∨ (t = .init ∨ t = mid (!d) ∨ t = top (!d)) ∨
      (t = .exit ∨ t = .end_) := by
  cases d <;> cases t <;> decide

variable {c : Cfg} {l : Loop} {i : Inp} {d : Bool}

theorem one_disabled (h : i.disabled c = true) : (one c l i).st = .disabled := by
  obtain ⟨k, st⟩ := l
  cases st <;> simp [one, fsm, trigger, h]

theorem one_leave_disabled (hs : l.st = .disabled) (h : i.disabled c = false) :
    (one c l i).st = .init := by
  obtain ⟨k, st⟩ := l
  subst hs
  simp [one, fsm, trigger, h]

theorem one_hit_mid (h : i.hit c d = true) (hs : l.st = mid d) :
    one c l i = ⟨l.checks + 1, if c.thr d ≤ l.checks + 1 then top d else mid d⟩ := by
  obtain ⟨k, st⟩ := l
  obtain ⟨hD, hok⟩ := Inp.hit_iff.1 h
  subst hs
  cases d <;> simp [one, fsm, trigger, Inp.successful, hD, hok, mid, top, Cfg.thr] <;>
    split <;> simp [*]

theorem one_hit_top (h : i.hit c d = true) (hs : l.st = top d) : one c l i = l := by
  obtain ⟨k, st⟩ := l
  obtain ⟨hD, hok⟩ := Inp.hit_iff.1 h
  subst hs
  cases d <;> simp [one, fsm, Inp.successful, hD, hok, top]

theorem one_hit_other (h : i.hit c d = true) (hs : l.st = .init ∨ l.st = mid (!d) ∨ l.st = top (!d)) :
    (one c l i).st = (if c.thr d ≤ 1 then top d else mid d) ∧
      ((one c l i).st = mid d → (one c l i).checks = 1) := by
  obtain ⟨k, st⟩ := l
  obtain ⟨hD, hok⟩ := Inp.hit_iff.1 h
  cases d <;> rcases hs with hs | hs | hs <;> subst hs <;>
    simp [one, fsm, trigger, Inp.successful, hD, hok, mid, top, Cfg.thr] <;> split <;> simp [*]

end Exa.Health
