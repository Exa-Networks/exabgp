import ExaModel.Model.Session
/-!
# M-Session — equations and case principles of the model, the state invariant

Closed forms of the handlers' result states and outputs, and one case principle per branching function with a
premise per *outcome* (the branches that end in the same handler share one): `Inv`, the frame `Fr` and the
trace relation `Acc` are each proved of all steps through these.  Then `Inv`, which relates where the coroutine
is (`pc`), the FSM variable and `peer.proto` (`conn`).
-/
namespace Exa.Session

@[simp] theorem andThen_fst (r : R) (f : State → R) : (r ⊳ f).1 = (f r.1).1 := rfl
@[simp] theorem andThen_snd (r : R) (f : State → R) : (r ⊳ f).2 = r.2 ++ (f r.1).2 := rfl

theorem sendOn_none {k : Kind} {s : State} (hc : s.conn = none) : sendOn k s = ((s, []), true) := by
  simp [sendOn, hc]

theorem sendOn_ok {k : Kind} {s : State} {c : Conn} (hc : s.conn = some c) (hr : c.rst = false) :
    sendOn k s = (({ s with conn := some (markSent k c) }, [.send c.id k s.fsm]), true) := by
  simp [sendOn, hc, hr]

theorem sendOn_fail {k : Kind} {s : State} {c : Conn} (hc : s.conn = some c) (hr : c.rst = true) :
    sendOn k s = (({ s with conn := none }, [.send c.id k s.fsm, .close c.id]), false) := by
  simp [sendOn, hc, hr]

theorem markSent_id (k : Kind) (c : Conn) : (markSent k c).id = c.id := by cases k <;> rfl

theorem sendOn_fst (k : Kind) (s : State) : (sendOn k s).1.1 = { s with conn := (sendOn k s).1.1.conn } := by
  fun_cases sendOn k s <;> rfl

theorem sendOn_fsm (k : Kind) (s : State) : (sendOn k s).1.1.fsm = s.fsm := by rw [sendOn_fst]

def quietFsm (f : Fsm) : Bool := f == .idle || f == .active

theorem quietFsm_eq (f : Fsm) : quietFsm f = decide (f = .idle ∨ f = .active) := by cases f <;> rfl

theorem apiDown_fst (s : State) : (apiDown s).1 = { s with isUp := s.isUp && quietFsm s.fsm } := by
  rw [quietFsm_eq]
  fun_cases apiDown s
  case case1 h => rw [decide_eq_true h, Bool.and_true]
  case case2 h => rw [decide_eq_false h, Bool.and_false]

theorem closeConn_fst (s : State) : (closeConn s).1 = { s with conn := none } := by
  fun_cases closeConn s
  · rfl
  · rename_i h; rw [← h]

theorem closeP_fst (s : State) :
    (closeP s).1 = { s with fsm := .idle, conn := none, isUp := s.isUp && quietFsm s.fsm } := by
  rw [closeP, andThen_fst, closeConn_fst, andThen_fst, apiDown_fst]; rfl

theorem resetP_fst (s : State) :
    (resetP s).1 = { s with fsm := .idle, conn := none, isUp := s.isUp && quietFsm s.fsm,
                            teardown := if s.restart then none else s.teardown,
                            refreshQ := if s.restart then 0 else s.refreshQ } := by
  rw [resetP, andThen_fst, closeP_fst]
  cases s.restart <;> rfl

theorem stopIfExhausted_fst (s : State) :
    (stopIfExhausted s).1 =
      if canReconnect s then s else { s with fsm := .idle, teardown := some 3, restart := false } := by
  unfold stopIfExhausted; split <;> rfl

theorem onNetErr_fst (s : State) :
    (onNetErr s).1 =
      { s with fsm := .idle, conn := none, restart := s.restart && canReconnect s,
               pc := if s.restart && canReconnect s then .backoff else .done,
               isUp := s.isUp && (quietFsm s.fsm || !canReconnect s),
               teardown := if canReconnect s then (if s.restart then none else s.teardown) else some 3,
               refreshQ := if s.restart && canReconnect s then 0 else s.refreshQ } := by
  rw [onNetErr, andThen_fst, andThen_fst, resetP_fst, stopIfExhausted_fst]
  cases hc : canReconnect s <;> cases hr : s.restart <;> simp [finish, hr, quietFsm]

theorem onNotification_fst (s : State) : (onNotification s).1 = (onNetErr s).1 := andThen_fst _ _

theorem onOther_fst (s : State) :
    (onOther s).1 =
      { s with fsm := .idle, conn := none, pc := if s.restart then .backoff else .done,
               isUp := s.isUp && quietFsm s.fsm,
               teardown := if s.restart then none else s.teardown,
               refreshQ := if s.restart then 0 else s.refreshQ } := by
  rw [onOther, andThen_fst, resetP_fst]; rfl

theorem onNotify_fst (code sub : Nat) (s : State) :
    (onNotify code sub s).1 =
      { s with fsm := .idle, conn := none, restart := s.restart && canReconnect s,
               pc := if s.restart && canReconnect s then .backoff else .done,
               isUp := s.isUp && quietFsm s.fsm,
               teardown := if canReconnect s then (if s.restart then none else s.teardown) else some 3,
               refreshQ := if s.restart then 0 else s.refreshQ } := by
  rw [onNotify, andThen_fst, andThen_fst, andThen_fst, resetP_fst, sendOn_fst, stopIfExhausted_fst]
  simp only [canReconnect]
  rcases Bool.eq_false_or_eq_true (s.cfg.maxAttempts == 0 || decide (s.attempts < s.cfg.maxAttempts)) with hc | hc <;>
    cases s.restart <;> simp [finish, hc]

/-- what `_close` tells the API process. -/
def downOut (s : State) : List Out := if s.cfg.changes && !s.dead then [Out.down] else []

theorem apiDown_snd (s : State) : (apiDown s).2 = if quietFsm s.fsm then [] else downOut s := by
  rw [quietFsm_eq]
  fun_cases apiDown s
  case case1 h => rw [decide_eq_true h, if_pos rfl]
  case case2 h => rw [decide_eq_false h]; rfl

theorem closeConn_snd (s : State) :
    (closeConn s).2 = match s.conn with | some c => [Out.close c.id] | none => [] := by
  fun_cases closeConn s <;> simp only [*]

theorem closeP_snd (s : State) :
    (closeP s).2 = (if quietFsm s.fsm then [] else downOut s) ++ [Out.fsm s.fsm .idle] ++
      (match s.conn with | some c => [Out.close c.id] | none => []) := by
  rw [closeP, andThen_snd, andThen_snd, andThen_fst, closeConn_snd, apiDown_snd, apiDown_fst]
  rfl

theorem resetP_snd (s : State) : (resetP s).2 = (closeP s).2 := by
  rw [resetP, andThen_snd]
  split <;> exact List.append_nil _

theorem mainIter_cases {P : R → Prop} (m : Option Msg) (s : State)
    (notify : ∀ code sub, P (onNotify code sub s)) (notification : P (onNotification s))
    (tail : P (mainTail (mainPre m s))) : P (mainIter m s) := by
  unfold mainIter
  split
  · exact notify _ _
  · exact notification
  · exact notify _ _
  · exact notify _ _
  · split
    · exact notify _ _
    · exact tail

theorem deliverAlive_cases {P : R → Prop} (m : Msg) (s : State)
    (notify : ∀ code sub, P (onNotify code sub s)) (notification : P (onNotification s))
    (openOk : ∀ c low, s.pc = .awaitOpen c →
      P (fsmTo .openconfirm (markConn (fun k => { k with idLow := low, openRecv := true }) s) ⊳ sendKa c))
    (keepalive : ∀ c, s.pc = .awaitKa c →
      P (fsmTo .established (markConn (fun k => { k with kaRecv := true }) s) ⊳ enterMain c))
    (main : ∀ c, s.pc = .mainLoop c → P (mainIter (some m) s))
    (idle : P (s, [])) : P (deliverAlive m s) := by
  fun_cases deliverAlive m s
  case case2 | case7 => exact notification          -- NOTIFICATION read in OPENSENT | OPENCONFIRM
  case case3 c hp low => exact openOk c low hp      -- OPENSENT: acceptable OPEN
  case case8 c hp => exact keepalive c hp           -- OPENCONFIRM: KEEPALIVE
  case case10 c hp => exact main c hp               -- ESTABLISHED: the main loop's read
  case case11 => exact idle                         -- no read pending
  all_goals exact notify _ _                        -- every other message in OPENSENT, OPENCONFIRM

theorem advance_cases {P : R → Prop} (n : Nat) (s : State) (stay : P (s, []))
    (read : ∀ c k m rest, awaited s = some c → s.conn = some k → k.id = c → k.inbox = m :: rest →
      P (deliver m { s with conn := some { k with inbox := rest } } ⊳ advance n))
    (err : ∀ c, awaited s = some c → P (readErr s)) : P (advance (n + 1) s) := by
  unfold advance
  split
  · rename_i c k haw hc
    split
    · rename_i hk
      split
      · rename_i m rest hi; exact read c k m rest haw hc hk hi
      · split
        · exact err c haw
        · exact stay
    · exact stay
  · exact stay

theorem drainMain_cases {P : R → Prop} (n : Nat) (s : State) (stay : P (s, []))
    (iter : ∀ c k, s.pc = .mainLoop c → s.conn = some k → k.id = c → P (mainIter none s ⊳ drainMain n))
    (stale : ∀ c, s.pc = .mainLoop c → P (staleIter s ⊳ drainMain n))
    (gone : ∀ c, s.pc = .mainLoop c → P (staleIter s)) : P (drainMain (n + 1) s) := by
  unfold drainMain
  split
  · rename_i c hp
    split
    · rename_i k hc
      split
      · rename_i hk; exact iter c k hp hc hk
      · exact stale c hp
    · exact gone c hp
  · exact stay

/-- everything but `conn` and the three outbound queues. -/
structure Same (s t : State) : Prop where
  fsm : t.fsm = s.fsm
  pc : t.pc = s.pc
  nextId : t.nextId = s.nextId
  isUp : t.isUp = s.isUp
  teardown : t.teardown = s.teardown
  cfg : t.cfg = s.cfg
  restart : t.restart = s.restart
  attempts : t.attempts = s.attempts

theorem Same.refl (s : State) : Same s s := ⟨rfl, rfl, rfl, rfl, rfl, rfl, rfl, rfl⟩

theorem Same.trans {a b c : State} (h1 : Same a b) (h2 : Same b c) : Same a c :=
  ⟨h2.fsm.trans h1.fsm, h2.pc.trans h1.pc, h2.nextId.trans h1.nextId, h2.isUp.trans h1.isUp,
    h2.teardown.trans h1.teardown, h2.cfg.trans h1.cfg, h2.restart.trans h1.restart, h2.attempts.trans h1.attempts⟩

/-- the outbound half of an iteration is a chain of guarded writes of ROUTE-REFRESH, UPDATE and End-of-RIB, each
    after taking from its queue; a chain stops at the first write that fails. -/
theorem mainSends_cases {P : State → W → Prop} (skip : ∀ s, P s ((s, []), true))
    (send : ∀ (k : Kind) (upd : State → State) (s : State), k = .refresh ∨ k = .update ∨ k = .eor →
      (∀ t, Same t (upd t) ∧ (upd t).conn = t.conn ∧ (upd t).dead = t.dead) → P s (sendOn k (upd s)))
    (andSend : ∀ (s : State) (w : W) (f : State → W), P s w → (∀ t, P t (f t)) → P s (w.andSend f))
    (s : State) : P s (mainSends s) := by
  have sendIf (c : State → Bool) (k : Kind) (upd : State → State) (hk : k = .refresh ∨ k = .update ∨ k = .eor)
      (hupd : ∀ t, Same t (upd t) ∧ (upd t).conn = t.conn ∧ (upd t).dead = t.dead) (t : State) :
      P t (sendIf c k upd t) := by
    fun_cases sendIf c k upd t
    · exact send k upd t hk hupd
    · exact skip t
  unfold mainSends
  -- `by` delays the `rfl`s until the goal has fixed the three updates
  exact andSend _ _ _
    (andSend _ _ _ (sendIf _ _ _ (.inl rfl) (by exact fun _ => ⟨⟨rfl, rfl, rfl, rfl, rfl, rfl, rfl, rfl⟩, rfl, rfl⟩) s)
      (sendIf _ _ _ (.inr (.inl rfl)) (by exact fun _ => ⟨⟨rfl, rfl, rfl, rfl, rfl, rfl, rfl, rfl⟩, rfl, rfl⟩)))
    (sendIf _ _ _ (.inr (.inr rfl)) (by exact fun _ => ⟨⟨rfl, rfl, rfl, rfl, rfl, rfl, rfl, rfl⟩, rfl, rfl⟩))

/-- the part of a connection `Inv` speaks about. -/
def Conn.hist (k : Conn) : Nat × Bool × Bool × Bool := (k.id, k.openSent, k.openRecv, k.kaRecv)

/-- `if self.proto: self._close()`, as `stop`, `handle_connection` and a failed connect do it. -/
abbrev closeIfAny (s : State) : R := if s.conn.isSome then closeP s else (s, [])

/-- what an event does before the coroutine runs again.  `wire`: the remote side of the connection moves
    (`recv`, `eof`, `sockError`); `request`: the API or the reactor leaves a request (`teardown`,
    `reestablish`, `queueRefresh`, `announce`). -/
theorem react_cases {P : R → Prop} (s : State) (e : Event) (stay : P (s, []))
    (begin : s.pc = .backoff → P (beginRun s))
    (finished : s.pc = .backoff → P (setPc .done s))
    (connected : s.pc = .connecting →
      P ((({ s with conn := some { id := s.nextId }, nextId := s.nextId + 1 },
          match s.conn with | some old => [.close old.id] | none => []) : R) ⊳ afterConnect))
    (connectedApiGone : s.pc = .connecting →
      P (onOther { s with nextId := s.nextId + 1 } ⊳ fun t => (t, [.close s.nextId])))
    (connectFail : s.pc = .connecting → P (closeIfAny s ⊳ onOther))
    (incoming : P (handleConnection s))
    (wire : ∀ k k', s.conn = some k → k'.hist = k.hist → P ({ s with conn := some k' }, []))
    (openwait : ∀ c, s.pc = .awaitOpen c → P (onNotify 5 1 s))
    (holdMain : ∀ c, s.pc = .mainLoop c →
      P (drainMain (s.refreshQ + 1) s ⊳ fun s => match s.pc with
        | .mainLoop _ => onNotify 4 0 s
        | _ => (s, [])))
    (holdKa : ∀ c, s.pc = .awaitKa c → P (onNotify 4 0 s))
    (tick : ∀ c k, s.pc = .mainLoop c → s.conn = some k → k.id = c → P (mainIter none s))
    (stale : ∀ c, s.pc = .mainLoop c → P (staleIter s))
    (request : ∀ td rs q rib rp,
      P ({ s with teardown := td, restart := rs, refreshQ := q, ribNonEmpty := rib, routesPending := rp }, []))
    (apiDies : e = .apiDies → P ({ s with dead := true }, []))
    (stop : P (closeIfAny s ⊳ stopP)) : P (react s e) := by
  fun_cases react s e
  case case1 hp _ => exact begin hp                 -- start, `_restart` set
  case case2 hp _ => exact finished hp              -- start, `_restart` clear
  case case4 hp _ _ => exact connectedApiGone hp    -- connectOk, API process gone
  case case5 hp _ _ _ => exact connected hp         -- connectOk
  case case7 hp => exact connectFail hp             -- connectFail
  case case9 => exact incoming                      -- incoming
  case case10 k hc _ => exact wire k _ hc rfl       -- recv on the live connection
  case case13 k hc _ => exact wire k _ hc rfl       -- eof on it
  case case16 k hc _ => exact wire k _ hc rfl       -- sockError on it
  case case19 c hp => exact openwait c hp           -- openwaitExpired in OPENSENT
  case case22 c hp _ => exact holdMain c hp         -- holdExpired in the main loop, hold time > 0
  case case24 c hp _ => exact holdKa c hp           -- holdExpired in OPENCONFIRM, hold time > 0
  case case26 k hc hp => exact tick _ k hp hc rfl   -- tick, `peer.proto` is the loop's connection
  case case27 c hp _ _ _ => exact stale c hp        -- tick, it is another one
  case case28 c hp _ => exact stale c hp            -- tick, it is gone
  case case30 => exact request _ _ _ _ _            -- teardown
  case case31 => exact request _ _ _ _ _            -- reestablish
  case case32 => exact stop                         -- stop
  case case33 => exact request _ _ _ _ _            -- queueRefresh
  case case34 => exact apiDies rfl                  -- apiDies
  case case35 => exact request _ _ _ _ _            -- announce
  all_goals exact stay                              -- the event finds the peer elsewhere (or hold time 0)

structure Inv (s : State) : Prop where
  backoffIdle : s.pc = .backoff → s.fsm = .idle
  doneIdle : s.pc = .done → s.fsm = .idle
  connectingIdle : s.pc = .connecting → s.fsm = .idle
  passive : s.pc = .passiveWait → (s.fsm = .active ∨ s.fsm = .idle) ∧ s.conn = none
  awaitOpen : ∀ c k, s.pc = .awaitOpen c → s.conn = some k → k.id = c → s.fsm = .opensent ∧ k.openSent = true
  awaitKa : ∀ c k, s.pc = .awaitKa c → s.conn = some k → k.id = c →
    s.fsm = .openconfirm ∧ k.openSent = true ∧ k.openRecv = true
  main : ∀ c k, s.pc = .mainLoop c → s.conn = some k → k.id = c →
    s.fsm = .established ∧ k.openSent = true ∧ k.openRecv = true ∧ k.kaRecv = true
  opensent : s.fsm = .opensent → ∃ k, s.conn = some k ∧ s.pc = .awaitOpen k.id
  openconfirm : s.fsm = .openconfirm → ∃ k, s.conn = some k ∧ s.pc = .awaitKa k.id
  established : s.fsm = .established → ∃ k, s.conn = some k ∧ s.pc = .mainLoop k.id
  notConnect : s.fsm ≠ .connect
  active : s.fsm = .active → s.pc = .passiveWait
  connId : ∀ k, s.conn = some k → k.id < s.nextId
  awaitId : ∀ c, awaited s = some c → c < s.nextId
  up : s.isUp = true → s.fsm = .established ∨ s.pc = .done
  quietFresh : (s.fsm = .idle ∨ s.fsm = .active) → ∀ k, s.conn = some k → k.openSent = false

theorem inv_init (cfg : Cfg) (rib : Bool) : Inv (init cfg rib) := by
  constructor <;> simp [init, awaited]

theorem Inv.hup {s : State} (h : Inv s) (hd : s.pc ≠ .done) : s.isUp = true → s.fsm = .established :=
  fun hu => (h.up hu).resolve_right hd

theorem not_done_of_awaited {s : State} {c : Nat} (haw : awaited s = some c) : s.pc ≠ .done :=
  fun hd => by simp [awaited, hd] at haw

theorem Inv.isUp_false {s : State} (h : Inv s) (hd : s.pc ≠ .done) (he : s.fsm ≠ .established) : s.isUp = false :=
  Bool.eq_false_iff.2 fun hu => he (h.hup hd hu)

theorem Inv.bump {s : State} (h : Inv s) : Inv { s with nextId := s.nextId + 1 } :=
  { h with connId := fun k hk => Nat.lt_succ_of_lt (h.connId k hk)
           awaitId := fun c hc => Nat.lt_succ_of_lt (h.awaitId c hc) }

theorem Inv.idle_of_noconn {s : State} (h : Inv s) (hc : s.conn = none) (hp : s.pc ≠ .passiveWait) : s.fsm = .idle := by
  cases hf : s.fsm with
  | idle => rfl
  | active => exact (hp (h.active hf)).elim
  | connect => exact (h.notConnect hf).elim
  | opensent => obtain ⟨k, hk, _⟩ := h.opensent hf; rw [hc] at hk; cases hk
  | openconfirm => obtain ⟨k, hk, _⟩ := h.openconfirm hf; rw [hc] at hk; cases hk
  | established => obtain ⟨k, hk, _⟩ := h.established hf; rw [hc] at hk; cases hk

theorem of_map_eq {α β : Type} {f : α → β} {a b : Option α} (h : a.map f = b.map f) {x : α} (hx : a = some x) :
    ∃ y, b = some y ∧ f x = f y := by
  subst hx
  cases b with
  | none => cases h
  | some y => exact ⟨y, rfl, Option.some.inj h⟩

theorem Inv.congr {s s' : State} (h : Inv s) (hf : s'.fsm = s.fsm) (hp : s'.pc = s.pc)
    (hc : s'.conn.map Conn.hist = s.conn.map Conn.hist) (hn : s'.nextId = s.nextId) (hu : s'.isUp = s.isUp) : Inv s' := by
  have haw : awaited s' = awaited s := by simp only [awaited, hp]
  have fwd : ∀ k', s'.conn = some k' → ∃ k, s.conn = some k ∧ k'.id = k.id ∧ k'.openSent = k.openSent ∧
      k'.openRecv = k.openRecv ∧ k'.kaRecv = k.kaRecv := fun k' hk' =>
    (of_map_eq hc hk').imp fun k e => ⟨e.1, by simpa [Conn.hist] using e.2⟩
  have bwd : ∀ k, s.conn = some k → ∃ k', s'.conn = some k' ∧ k'.id = k.id := fun k hk =>
    (of_map_eq hc.symm hk).imp fun k' e => ⟨e.1, congrArg Prod.fst e.2.symm⟩
  constructor <;> simp only [hf, hp, hn, hu, haw]
  · exact h.backoffIdle
  · exact h.doneIdle
  · exact h.connectingIdle
  · intro hh
    refine ⟨(h.passive hh).1, ?_⟩
    cases h' : s'.conn with
    | none => rfl
    | some k' => obtain ⟨k, hk, _⟩ := fwd k' h'; rw [(h.passive hh).2] at hk; cases hk
  · intro c k' hh hk' hi
    obtain ⟨k, hk, e1, e2, _⟩ := fwd k' hk'
    rw [e2]; exact h.awaitOpen c k hh hk (e1 ▸ hi)
  · intro c k' hh hk' hi
    obtain ⟨k, hk, e1, e2, e3, _⟩ := fwd k' hk'
    rw [e2, e3]; exact h.awaitKa c k hh hk (e1 ▸ hi)
  · intro c k' hh hk' hi
    obtain ⟨k, hk, e1, e2, e3, e4⟩ := fwd k' hk'
    rw [e2, e3, e4]; exact h.main c k hh hk (e1 ▸ hi)
  · intro hh
    obtain ⟨k, hk, hpc⟩ := h.opensent hh
    obtain ⟨k', hk', e⟩ := bwd k hk
    exact ⟨k', hk', e ▸ hpc⟩
  · intro hh
    obtain ⟨k, hk, hpc⟩ := h.openconfirm hh
    obtain ⟨k', hk', e⟩ := bwd k hk
    exact ⟨k', hk', e ▸ hpc⟩
  · intro hh
    obtain ⟨k, hk, hpc⟩ := h.established hh
    obtain ⟨k', hk', e⟩ := bwd k hk
    exact ⟨k', hk', e ▸ hpc⟩
  · exact h.notConnect
  · exact h.active
  · intro k' hk'
    obtain ⟨k, hk, e1, _⟩ := fwd k' hk'
    rw [e1]; exact h.connId k hk
  · exact h.awaitId
  · exact h.up
  · intro hq k' hk'
    obtain ⟨k, hk, _, e2, _⟩ := fwd k' hk'
    rw [e2]; exact h.quietFresh hq k hk

theorem inv_idle {s : State} (hf : s.fsm = .idle) (hid : ∀ k, s.conn = some k → k.id < s.nextId)
    (haw : ∀ c, awaited s = some c → c < s.nextId ∧ ∀ k, s.conn = some k → k.id ≠ c)
    (hpas : s.pc = .passiveWait → s.conn = none) (hup : s.isUp = true → s.pc = .done)
    (hfresh : ∀ k, s.conn = some k → k.openSent = false) : Inv s := by
  have stale : ∀ c k, awaited s = some c → s.conn = some k → k.id = c → False :=
    fun c k h1 h2 h3 => (haw c h1).2 k h2 h3
  constructor
  · intro _; exact hf
  · intro _; exact hf
  · intro _; exact hf
  · intro h; exact ⟨Or.inr hf, hpas h⟩
  · intro c k hp hc hi; exact (stale c k (by simp [awaited, hp]) hc hi).elim
  · intro c k hp hc hi; exact (stale c k (by simp [awaited, hp]) hc hi).elim
  · intro c k hp hc hi; exact (stale c k (by simp [awaited, hp]) hc hi).elim
  · intro h; rw [hf] at h; cases h
  · intro h; rw [hf] at h; cases h
  · intro h; rw [hf] at h; cases h
  · rw [hf]; intro h; cases h
  · intro h; rw [hf] at h; cases h
  · exact hid
  · intro c h; exact (haw c h).1
  · intro h; exact Or.inr (hup h)
  · intro _; exact hfresh

theorem inv_passive {s : State} (hf : s.fsm = .active) (hp : s.pc = .passiveWait) (hc : s.conn = none)
    (hup : s.isUp = false) : Inv s := by
  constructor <;> simp [awaited, *]

theorem inv_awaitOpen {s : State} {k : Conn} (hf : s.fsm = .opensent) (hp : s.pc = .awaitOpen k.id)
    (hc : s.conn = some k) (h1 : k.openSent = true) (hid : k.id < s.nextId) (hup : s.isUp = false) : Inv s := by
  constructor <;> simp [awaited, *]

theorem inv_awaitKa {s : State} {k : Conn} (hf : s.fsm = .openconfirm) (hp : s.pc = .awaitKa k.id)
    (hc : s.conn = some k) (h1 : k.openSent = true) (h2 : k.openRecv = true) (hid : k.id < s.nextId)
    (hup : s.isUp = false) : Inv s := by
  constructor <;> simp [awaited, *]

theorem inv_main {s : State} {k : Conn} (hf : s.fsm = .established) (hp : s.pc = .mainLoop k.id)
    (hc : s.conn = some k) (h1 : k.openSent = true) (h2 : k.openRecv = true) (h3 : k.kaRecv = true)
    (hid : k.id < s.nextId) : Inv s := by
  constructor <;> simp [awaited, *]

/-- where every exception handler of `_run` leaves the peer. -/
structure Ended (s s' : State) : Prop where
  fsm : s'.fsm = .idle
  conn : s'.conn = none
  pc : s'.pc = .backoff ∨ s'.pc = .done
  nextId : s'.nextId = s.nextId
  up : s'.isUp = true → s'.pc = .done

theorem Ended.inv {s s' : State} (h : Ended s s') : Inv s' := by
  have haw : awaited s' = none := by rcases h.pc with hp | hp <;> simp [awaited, hp]
  exact inv_idle h.fsm (by simp [h.conn]) (by simp [haw]) (fun _ => h.conn) h.up (by simp [h.conn])

theorem quiet_of_up {s : State} (hup : s.isUp = true → s.fsm = .established) (h : s.isUp = true) :
    quietFsm s.fsm = false := by rw [hup h]; rfl

theorem onNetErr_ended (s : State) (hup : s.isUp = true → s.fsm = .established) : Ended s (onNetErr s).1 := by
  rw [onNetErr_fst]
  refine ⟨rfl, rfl, ?_, rfl, ?_⟩
  · cases s.restart <;> cases canReconnect s <;> simp
  · cases hu : s.isUp
    · simp
    · cases hc : canReconnect s <;> simp [quiet_of_up hup hu]

theorem onNotification_ended (s : State) (hup : s.isUp = true → s.fsm = .established) :
    Ended s (onNotification s).1 := by rw [onNotification_fst]; exact onNetErr_ended s hup

theorem onOther_ended (s : State) (hup : s.isUp = true → s.fsm = .established) : Ended s (onOther s).1 := by
  rw [onOther_fst]
  refine ⟨rfl, rfl, ?_, rfl, ?_⟩
  · cases s.restart <;> simp
  · cases hu : s.isUp
    · simp
    · simp [quiet_of_up hup hu]

theorem onNotify_ended (code sub : Nat) (s : State) (hup : s.isUp = true → s.fsm = .established) :
    Ended s (onNotify code sub s).1 := by
  rw [onNotify_fst]
  refine ⟨rfl, rfl, ?_, rfl, ?_⟩
  · cases s.restart <;> cases canReconnect s <;> simp
  · cases hu : s.isUp
    · simp
    · simp [quiet_of_up hup hu]

theorem Ended.trans_eq {s t u : State} (h : Ended t u) (hn : t.nextId = s.nextId) : Ended s u :=
  ⟨h.fsm, h.conn, h.pc, by rw [h.nextId, hn], h.up⟩

end Exa.Session
