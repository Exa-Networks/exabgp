import ExaModel.Lemmas.PackLoops
/-! The notions the C09 theorems are stated with, and the theorems about the whole of `messages`
    (`packRaw`), from which `Props/C09.lean` derives the statements about `pack`. -/
namespace Exa.Pack

/-- **The announce `x` fits alone with the attributes**: an UPDATE made of the 19-byte header, the
    two length fields, the attribute block `messages` chose and this one NLRI (in an MP_REACH_NLRI
    with its next hop for an MP family) is within the negotiated maximum. -/
def fitsAnn (i : Input) (x : Nlri) : Prop :=
  if x.v4 then 23 + chosenAttr i + x.size ≤ i.M
  else 23 + chosenAttr i + attrLen (5 + x.nhLen + x.size) ≤ i.M

/-- the same for a withdraw (in an MP_UNREACH_NLRI for an MP family) -/
def fitsWd (i : Input) (x : Nlri) : Prop :=
  if x.v4 then 23 + chosenAttr i + x.size ≤ i.M
  else 23 + chosenAttr i + attrLen (3 + x.size) ≤ i.M

instance (i : Input) (x : Nlri) : Decidable (fitsAnn i x) := by unfold fitsAnn; exact inferInstance
instance (i : Input) (x : Nlri) : Decidable (fitsWd i x) := by unfold fitsWd; exact inferInstance

theorem fitsAnn_v4 {i : Input} {x : Nlri} (h : x.v4 = true) : fitsAnn i x ↔ 23 + chosenAttr i + x.size ≤ i.M := by
  simp [fitsAnn, h]
theorem fitsAnn_mp {i : Input} {x : Nlri} (h : x.v4 = false) :
    fitsAnn i x ↔ 23 + chosenAttr i + attrLen (5 + x.nhLen + x.size) ≤ i.M := by
  simp [fitsAnn, h]
theorem fitsWd_v4 {i : Input} {x : Nlri} (h : x.v4 = true) : fitsWd i x ↔ 23 + chosenAttr i + x.size ≤ i.M := by
  simp [fitsWd, h]
theorem fitsWd_mp {i : Input} {x : Nlri} (h : x.v4 = false) :
    fitsWd i x ↔ 23 + chosenAttr i + attrLen (3 + x.size) ≤ i.M := by
  simp [fitsWd, h]

theorem mem_v4Anns {i : Input} {x : Nlri} : x ∈ v4Anns i ↔ x ∈ i.anns ∧ x.fam ∈ i.negotiated ∧ x.v4 = true := by
  simp [v4Anns]
theorem mem_mpAnns {i : Input} {x : Nlri} : x ∈ mpAnns i ↔ x ∈ i.anns ∧ x.fam ∈ i.negotiated ∧ x.v4 = false := by
  simp [mpAnns]
theorem mem_v4Wds {i : Input} {x : Nlri} : x ∈ v4Wds i ↔ x ∈ i.wds ∧ x.fam ∈ i.negotiated ∧ x.v4 = true := by
  simp [v4Wds]
theorem mem_mpWds {i : Input} {x : Nlri} : x ∈ mpWds i ↔ x ∈ i.wds ∧ x.fam ∈ i.negotiated ∧ x.v4 = false := by
  simp [mpWds]

/-- the IPv4 half: the two loops and the message that flushes what they still hold -/
def v4Part (inclW : Bool) (ms attr : Nat) (va vw : List Nlri) : List Msg :=
  let r1 := v4AnnLoop ms attr va [] []
  let r2 := v4WdPart inclW ms attr vw r1.w r1.a
  r1.msgs ++ r2.msgs ++ v4Final attr r2.w r2.a

theorem packRaw_cases (i : Input) :
    ((packRaw i).msgs = [] ∧
      (((packRaw i).status = .ok ∧ v4Anns i = [] ∧ mpAnns i = [] ∧ v4Wds i = [] ∧ mpWds i = []) ∨
       ((packRaw i).status = .noRoom ∧ i.M ≤ 23 + chosenAttr i))) ∨
    ∃ ms, 0 < ms ∧ 23 + chosenAttr i + ms = i.M ∧ (packRaw i).status = .ok ∧
      (packRaw i).msgs = v4Part i.includeWithdraw ms (chosenAttr i) (v4Anns i) (v4Wds i)
        ++ famLoop i.includeWithdraw ms (chosenAttr i) (mpAnns i) (mpWds i) (mpFams i) := by
  fun_cases packRaw i
  case case1 h =>
    simp only [Bool.and_eq_true, List.isEmpty_iff] at h
    exact .inl ⟨rfl, .inl ⟨rfl, h.1.1.1, h.1.2, h.1.1.2, h.2⟩⟩
  case case2 h1 => exact .inl ⟨rfl, .inr ⟨rfl, Nat.le_of_lt h1⟩⟩
  case case3 => exact .inl ⟨rfl, .inr ⟨rfl, by omega⟩⟩
  case case4 ms h2 _ _ => exact .inr ⟨ms, Nat.pos_of_ne_zero h2, by omega, rfl, rfl⟩

theorem v4Part_spec (inclW : Bool) (ms attr : Nat) (va vw : List Nlri) :
    (∀ m ∈ v4Part inclW ms attr va vw, Classic ms attr m) ∧
    (∃ t, sz t = 0 ∧ (v4Part inclW ms attr va vw).flatMap Msg.ann4 ++ t = va.filter (fun x => x.size ≤ ms)) ∧
    (∃ t, sz t = 0 ∧ (v4Part inclW ms attr va vw).flatMap Msg.wd4 ++ t
      = if inclW then vw.filter (fun x => x.size ≤ ms) else []) := by
  have r1 := v4AnnLoop_spec ms attr va [] [] (Nat.zero_le _)
  have r2 := v4WdPart_spec inclW ms attr vw _ _ r1.room
  obtain ⟨c1, ⟨ta, hta, c2⟩, ⟨tw, htw, c3⟩⟩ := v4Final_spec ms attr _ _ r2.room
  refine ⟨?_, ⟨ta, hta, ?_⟩, ⟨tw, htw, ?_⟩⟩
  · simp only [v4Part, List.mem_append]
    rintro m ((hm | hm) | hm)
    · exact r1.classic m hm
    · exact r2.classic m hm
    · exact c1 m hm
  · simp only [v4Part, List.flatMap_append, List.append_assoc, c2, r2.ann]
    exact r1.ann
  · simp only [v4Part, List.flatMap_append, List.append_assoc, c3, r2.wd]
    rw [← List.append_assoc, r1.wd, List.nil_append]

theorem packRaw_fits (i : Input) : ∀ m ∈ (packRaw i).msgs, m.len ≤ i.M := by
  intro m hm
  rcases packRaw_cases i with ⟨h, _⟩ | ⟨ms, _, hM, _, h⟩ <;> rw [h] at hm
  · cases hm
  · rw [← hM]
    rcases List.mem_append.1 hm with hm | hm
    · exact ((v4Part_spec _ ms _ _ _).1 m hm).len_le
    · exact ((famLoop_spec _ ms _ _ _ _).1 m hm).len_le

theorem pack_sub (i : Input) : ∀ m ∈ (pack i).msgs, m ∈ (packRaw i).msgs :=
  cut_sub _

theorem pack_eq_packRaw (i : Input) (hM : i.M ≤ 65535) : pack i = packRaw i := by
  simp [pack, cut_of_le _ (fun m hm => Nat.le_trans (packRaw_fits i m hm) hM)]

/-- an MP_REACH_NLRI of the output: requested MP announces of ONE family with ONE next hop, each of
    which fits alone -/
def GoodReach (i : Input) (r : Mp) : Prop :=
  r.hdr = 5 + r.nhLen ∧ 0 < sz r.items ∧ ∀ x ∈ r.items, x ∈ mpAnns i ∧ x.fam = r.fam ∧ x.nh = r.nh ∧ x.nhLen = r.nhLen ∧
    23 + chosenAttr i + attrLen (5 + x.nhLen + x.size) ≤ i.M

/-- an MP_UNREACH_NLRI of the output: requested MP withdraws of one family, only with `include_withdraw` -/
def GoodUnreach (i : Input) (u : Mp) : Prop :=
  i.includeWithdraw = true ∧ u.hdr = 3 ∧ 0 < sz u.items ∧ ∀ x ∈ u.items, x ∈ mpWds i ∧ x.fam = u.fam ∧
    23 + chosenAttr i + attrLen (3 + x.size) ≤ i.M

/-- what the classic NLRI field may hold -/
def GoodAnn4 (i : Input) (x : Nlri) : Prop := x ∈ v4Anns i ∧ 23 + chosenAttr i + x.size ≤ i.M
/-- what the classic Withdrawn Routes field may hold -/
def GoodWd4 (i : Input) (x : Nlri) : Prop :=
  x ∈ v4Wds i ∧ i.includeWithdraw = true ∧ 23 + chosenAttr i + x.size ≤ i.M

section
variable {i : Input} {x : Nlri} {r u : Mp}

theorem GoodAnn4.request (h : GoodAnn4 i x) : x ∈ i.anns ∧ x.fam ∈ i.negotiated ∧ fitsAnn i x ∧ x.v4 = true := by
  obtain ⟨ha, hn, hv⟩ := mem_v4Anns.1 h.1
  exact ⟨ha, hn, (fitsAnn_v4 hv).2 h.2, hv⟩

theorem GoodWd4.request (h : GoodWd4 i x) :
    x ∈ i.wds ∧ x.fam ∈ i.negotiated ∧ fitsWd i x ∧ i.includeWithdraw = true ∧ x.v4 = true := by
  obtain ⟨ha, hn, hv⟩ := mem_v4Wds.1 h.1
  exact ⟨ha, hn, (fitsWd_v4 hv).2 h.2.2, h.2.1, hv⟩

theorem GoodReach.request (h : GoodReach i r) (hx : x ∈ r.items) :
    x ∈ i.anns ∧ x.fam ∈ i.negotiated ∧ fitsAnn i x ∧ x.v4 = false := by
  obtain ⟨h1, _, _, _, h2⟩ := h.2.2 x hx
  obtain ⟨ha, hn, hv⟩ := mem_mpAnns.1 h1
  exact ⟨ha, hn, (fitsAnn_mp hv).2 h2, hv⟩

theorem GoodUnreach.request (h : GoodUnreach i u) (hx : x ∈ u.items) :
    x ∈ i.wds ∧ x.fam ∈ i.negotiated ∧ fitsWd i x ∧ i.includeWithdraw = true ∧ x.v4 = false := by
  obtain ⟨h1, _, h2⟩ := h.2.2.2 x hx
  obtain ⟨ha, hn, hv⟩ := mem_mpWds.1 h1
  exact ⟨ha, hn, (fitsWd_mp hv).2 h2, h.1, hv⟩

end

theorem packRaw_sections (i : Input) :
    ∀ m ∈ (packRaw i).msgs, SecOK (chosenAttr i) (GoodAnn4 i) (GoodWd4 i) (GoodReach i) (GoodUnreach i) m := by
  intro m hm
  rcases packRaw_cases i with ⟨h, _⟩ | ⟨ms, _, hM, _, h⟩ <;> rw [h] at hm
  · cases hm
  rcases List.mem_append.1 hm with hm | hm
  · obtain ⟨c, ⟨ta, _, ea⟩, ⟨tw, _, ew⟩⟩ := v4Part_spec i.includeWithdraw ms (chosenAttr i) (v4Anns i) (v4Wds i)
    refine (c m hm).sec (fun x hx => ?_) (fun x hx => ?_)
    · have := (congrArg (x ∈ ·) ea).mp (List.mem_append_left _ (List.mem_flatMap.2 ⟨m, hm, hx⟩))
      simp only [List.mem_filter, decide_eq_true_eq] at this
      exact ⟨this.1, by omega⟩
    · have := (congrArg (x ∈ ·) ew).mp (List.mem_append_left _ (List.mem_flatMap.2 ⟨m, hm, hx⟩))
      cases hi : i.includeWithdraw <;> simp [hi] at this
      exact ⟨this.1, hi, by omega⟩
  · obtain ⟨c, er, eu⟩ := famLoop_spec i.includeWithdraw ms (chosenAttr i) (mpAnns i) (mpWds i) (mpFams i)
    refine (c m hm).sec (fun r hr => ?_) (fun u hu => ?_)
    · obtain ⟨f, _, hrf⟩ := List.mem_flatMap.1 ((congrArg (r ∈ ·) er).mp (List.mem_filterMap.2 ⟨m, hm, hr⟩))
      obtain ⟨rfl, h2, hne, _, h3⟩ := reachGen_sound hrf
      refine ⟨h2, hne, fun x hx => ?_⟩
      obtain ⟨hxa, hnh, hnl, hfit⟩ := h3 x hx
      obtain ⟨hxa, hxf⟩ := List.mem_filter.1 hxa
      exact ⟨hxa, by simpa using hxf, hnh, hnl, by omega⟩
    · have := (congrArg (u ∈ ·) eu).mp (List.mem_filterMap.2 ⟨m, hm, hu⟩)
      cases hi : i.includeWithdraw <;> simp only [hi, Bool.false_eq_true, if_false, if_true, List.not_mem_nil] at this
      obtain ⟨f, _, huf⟩ := List.mem_flatMap.1 this
      obtain ⟨rfl, h2, hne, _, h3⟩ := unreachGen_sound huf
      refine ⟨hi, h2, hne, fun x hx => ?_⟩
      obtain ⟨hxw, hfit⟩ := h3 x hx
      obtain ⟨hxw, hxf⟩ := List.mem_filter.1 hxw
      exact ⟨hxw, by simpa using hxf, by omega⟩

/-- every MP family that has something to send is visited by the loop (`famOrder` lists the set) -/
def FamCover (i : Input) : Prop := ∀ x ∈ mpAnns i ++ mpWds i, x.fam ∈ i.famOrder

instance (i : Input) : Decidable (FamCover i) := by unfold FamCover; exact inferInstance

/-- every NLRI has at least one byte -/
def PosSizes (i : Input) : Prop := Pos i.anns ∧ Pos i.wds

instance (i : Input) : Decidable (PosSizes i) := by unfold PosSizes; exact inferInstance

theorem packRaw_sections_complete (i : Input) (hp : PosSizes i) (hf : FamCover i) :
    (∀ x ∈ v4Anns i, 23 + chosenAttr i + x.size ≤ i.M → ∃ m ∈ (packRaw i).msgs, x ∈ m.ann4) ∧
    (∀ x ∈ mpAnns i, 23 + chosenAttr i + attrLen (5 + x.nhLen + x.size) ≤ i.M →
      ∃ m ∈ (packRaw i).msgs, ∃ r, m.reach = some r ∧ x ∈ r.items) ∧
    (i.includeWithdraw = true →
      (∀ x ∈ v4Wds i, 23 + chosenAttr i + x.size ≤ i.M → ∃ m ∈ (packRaw i).msgs, x ∈ m.wd4) ∧
      (∀ x ∈ mpWds i, 23 + chosenAttr i + attrLen (3 + x.size) ≤ i.M →
        ∃ m ∈ (packRaw i).msgs, ∃ u, m.unreach = some u ∧ x ∈ u.items)) := by
  have pa : ∀ {p}, ∀ x ∈ i.anns.filter p, 0 < x.size := fun x hx => hp.1 x (List.mem_filter.1 hx).1
  have pw : ∀ {p}, ∀ x ∈ i.wds.filter p, 0 < x.size := fun x hx => hp.2 x (List.mem_filter.1 hx).1
  rcases packRaw_cases i with ⟨_, ⟨_, e1, e2, e3, e4⟩ | ⟨_, hM⟩⟩ | ⟨ms, _, hM, _, h⟩
  · rw [e1, e2, e3, e4]
    exact ⟨List.forall_mem_nil _, List.forall_mem_nil _, fun _ => ⟨List.forall_mem_nil _, List.forall_mem_nil _⟩⟩
  · -- no room for a single byte, and each of the four needs one
    have no : ∀ {n P}, 0 < n → 23 + chosenAttr i + n ≤ i.M → P := fun hn h => by omega
    exact ⟨fun x hx => no (pa x hx), fun x _ => no (Nat.zero_lt_of_lt (attrLen_pos _)),
      fun _ => ⟨fun x hx => no (pw x hx), fun x _ => no (Nat.zero_lt_of_lt (attrLen_pos _))⟩⟩
  rw [h]
  obtain ⟨_, ⟨ta, hta, ea⟩, ⟨tw, htw, ew⟩⟩ := v4Part_spec i.includeWithdraw ms (chosenAttr i) (v4Anns i) (v4Wds i)
  obtain ⟨_, er, eu⟩ := famLoop_spec i.includeWithdraw ms (chosenAttr i) (mpAnns i) (mpWds i) (mpFams i)
  have fit : ∀ {n}, 23 + chosenAttr i + n ≤ i.M → n ≤ ms := fun h => by omega
  have famIn : ∀ x ∈ mpAnns i ++ mpWds i, x.fam ∈ mpFams i := fun x hx =>
    List.mem_filter.2 ⟨hf x hx, List.any_eq_true.2 ⟨x, hx, by simp⟩⟩
  refine ⟨fun x hx hfit => ?_, fun x hx hfit => ?_, fun hi => ⟨fun x hx hfit => ?_, fun x hx hfit => ?_⟩⟩
  · obtain ⟨m, hm, hxm⟩ := List.mem_flatMap.1
      (mem_of_tail ea hta (List.mem_filter.2 ⟨hx, decide_eq_true (fit hfit)⟩) (pa x hx))
    exact ⟨m, List.mem_append_left _ hm, hxm⟩
  · obtain ⟨r, hr, hxr⟩ := reachGen_complete (maxi := ms) (fam := x.fam)
      (ra := (mpAnns i).filter (fun y => y.fam = x.fam)) (List.mem_filter.2 ⟨hx, by simp⟩) (pa x hx) (fit hfit)
    obtain ⟨m, hm, hmr⟩ := List.mem_filterMap.1 <| (congrArg (r ∈ ·) er).mpr <|
      List.mem_flatMap.2 ⟨x.fam, famIn x (List.mem_append_left _ hx), hr⟩
    exact ⟨m, List.mem_append_right _ hm, r, hmr, hxr⟩
  · rw [if_pos hi] at ew
    obtain ⟨m, hm, hxm⟩ := List.mem_flatMap.1
      (mem_of_tail ew htw (List.mem_filter.2 ⟨hx, decide_eq_true (fit hfit)⟩) (pw x hx))
    exact ⟨m, List.mem_append_left _ hm, hxm⟩
  · rw [if_pos hi] at eu
    obtain ⟨u, hu, hxu⟩ := unreachGen_complete (maxi := ms) (fam := x.fam)
      (wa := (mpWds i).filter (fun y => y.fam = x.fam)) (List.mem_filter.2 ⟨hx, by simp⟩) (pw x hx) (fit hfit)
    obtain ⟨m, hm, hmu⟩ := List.mem_filterMap.1 <| (congrArg (u ∈ ·) eu).mpr <|
      List.mem_flatMap.2 ⟨x.fam, famIn x (List.mem_append_right _ hx), hu⟩
    exact ⟨m, List.mem_append_right _ hm, u, hmu, hxu⟩

theorem packRaw_placed (i : Input) (hp : PosSizes i) (hf : FamCover i) :
    (∀ x ∈ i.anns, x.fam ∈ i.negotiated → fitsAnn i x → ∃ m ∈ (packRaw i).msgs, m.attrs = true ∧
      if x.v4 then x ∈ m.ann4 else x ∈ oitems m.reach) ∧
    (i.includeWithdraw = true → ∀ x ∈ i.wds, x.fam ∈ i.negotiated → fitsWd i x → ∃ m ∈ (packRaw i).msgs,
      if x.v4 then x ∈ m.wd4 else x ∈ oitems m.unreach) := by
  obtain ⟨c1, c2, c3⟩ := packRaw_sections_complete i hp hf
  refine ⟨fun x hx hn hfit => ?_, fun hi x hx hn hfit => ?_⟩ <;> cases hv : x.v4 <;>
    simp only [Bool.false_eq_true, if_false, if_true]
  · obtain ⟨m, hm, r, hr, hxr⟩ := c2 x (mem_mpAnns.2 ⟨hx, hn, hv⟩) ((fitsAnn_mp hv).1 hfit)
    exact ⟨m, hm, (packRaw_sections i m hm).attrs_of_reach hr, mem_oitems.2 ⟨r, hr, hxr⟩⟩
  · obtain ⟨m, hm, hxm⟩ := c1 x (mem_v4Anns.2 ⟨hx, hn, hv⟩) ((fitsAnn_v4 hv).1 hfit)
    exact ⟨m, hm, (packRaw_sections i m hm).attrs_of_ann4 hxm (hp.1 x hx), hxm⟩
  · obtain ⟨m, hm, u, hu, hxu⟩ := (c3 hi).2 x (mem_mpWds.2 ⟨hx, hn, hv⟩) ((fitsWd_mp hv).1 hfit)
    exact ⟨m, hm, mem_oitems.2 ⟨u, hu, hxu⟩⟩
  · exact (c3 hi).1 x (mem_v4Wds.2 ⟨hx, hn, hv⟩) ((fitsWd_v4 hv).1 hfit)

theorem packRaw_status (i : Input) :
    (packRaw i).status = .ok ∨ ((packRaw i).status = .noRoom ∧ (packRaw i).msgs = [] ∧ i.M ≤ 23 + chosenAttr i) := by
  rcases packRaw_cases i with ⟨h, ⟨h', _⟩ | ⟨h', hM⟩⟩ | ⟨_, _, _, h', _⟩
  · exact .inl h'
  · exact .inr ⟨h', h, hM⟩
  · exact .inl h'

theorem packRaw_no_room (i : Input) (h : i.M ≤ 23 + chosenAttr i) : (packRaw i).msgs = [] := by
  rcases packRaw_cases i with ⟨h', _⟩ | ⟨ms, _, _, _, _⟩
  · exact h'
  · omega

end Exa.Pack
