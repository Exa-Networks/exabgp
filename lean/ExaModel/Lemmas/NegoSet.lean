import ExaModel.Model.Nego
/-! What `capSet` (the dict `Capabilities.unpack` builds, capability by capability) holds, stated on
    the raw capability list: membership for MP / next hop / the flag capabilities, the last ASN4,
    the last ADD-PATH entry of a family. -/
namespace Exa.Open

theorem foldl_add_proj {β : Type} (p : CapSet → β) (step : β → Cap → β)
    (h : ∀ s c, p (s.add c) = step (p s) c) (caps : List Cap) (s : CapSet) :
    p (caps.foldl CapSet.add s) = caps.foldl step (p s) := by
  induction caps generalizing s with
  | nil => rfl
  | cons c t ih => simp only [List.foldl_cons]; rw [ih, h]

/-- a multisession capability of the given variant (RFC draft code 68 / Cisco code 131), any value -/
def isMs (cisco : Bool) (c : Cap) : Bool := match c with | .multisession b _ => b == cisco | _ => false

/-- What `add` does to the entry of a capability that accumulates (MP, next hop, ADD-PATH): `ext` is the payload of
    the capabilities concerned, `comb` merges a payload into what the dict holds (`d` when nothing is there yet). -/
def accum {β γ : Type} (ext : Cap → Option γ) (comb : β → γ → β) (d : β) (acc : Option β) (c : Cap) : Option β :=
  match ext c with
  | some g => some (comb (acc.getD d) g)
  | none => acc

def mp? (c : Cap) : Option Family := match c with | .mp a s => some (a, s) | _ => none
def nexthop? (c : Cap) : Option (List Triple) := match c with | .nexthop es => some es | _ => none
def addpath? (c : Cap) : Option (List Triple) := match c with | .addpath es => some es | _ => none
def asn4? (c : Cap) : Option Nat := match c with | .asn4 v => some v | _ => none

/-- `add`, field by field, for the fields negotiation reads: the flags are raised by their capability, ASN4 is
    replaced, the three lists accumulate. -/
theorem CapSet.add_eq (s : CapSet) (c : Cap) :
    s.add c =
      { s.add c with
        mp := accum mp? addUnique [] s.mp c
        nexthop := accum nexthop? (fun l es => es.foldl addUnique l) [] s.nexthop c
        addpath := accum addpath? (fun d es => es.foldl insertEntry d) [] s.addpath c
        asn4 := match c with | .asn4 v => some v | _ => s.asn4
        refresh := Cap.refresh == c || s.refresh
        enhanced := Cap.enhanced == c || s.enhanced
        extMsg := Cap.extMsg == c || s.extMsg
        operational := Cap.operational == c || s.operational
        linkLocal := Cap.linkLocal == c || s.linkLocal
        multisession := isMs false c || s.multisession
        multisessionCisco := isMs true c || s.multisessionCisco } := by
  cases c with
  | multisession b _ => cases b <;> rfl
  | _ => rfl

theorem foldl_or_any (caps : List Cap) (q : Cap → Bool) (b : Bool) :
    caps.foldl (fun acc c => q c || acc) b = (caps.any q || b) := by
  induction caps generalizing b with
  | nil => rfl
  | cons c t ih => rw [List.foldl_cons, ih, List.any_cons, Bool.or_assoc, Bool.or_left_comm]

theorem capSet_flag (p : CapSet → Bool) (q : Cap → Bool) (h0 : p {} = false)
    (h : ∀ s c, p (s.add c) = (q c || p s)) (caps : List Cap) : p (capSet caps) = caps.any q := by
  rw [capSet, foldl_add_proj p (fun acc c => q c || acc) h, foldl_or_any, h0, Bool.or_false]

/-- a flag raised by the one capability `k` -/
theorem capSet_contains (p : CapSet → Bool) (k : Cap) (h0 : p {} = false)
    (h : ∀ s c, p (s.add c) = (k == c || p s)) (caps : List Cap) : p (capSet caps) = caps.contains k := by
  rw [List.contains_eq_any_beq]; exact capSet_flag p _ h0 h caps

theorem capSet_refresh (caps : List Cap) : (capSet caps).refresh = caps.contains .refresh :=
  capSet_contains (·.refresh) _ rfl (fun s c => congrArg (·.refresh) (s.add_eq c)) caps

theorem capSet_enhanced (caps : List Cap) : (capSet caps).enhanced = caps.contains .enhanced :=
  capSet_contains (·.enhanced) _ rfl (fun s c => congrArg (·.enhanced) (s.add_eq c)) caps

theorem capSet_extMsg (caps : List Cap) : (capSet caps).extMsg = caps.contains .extMsg :=
  capSet_contains (·.extMsg) _ rfl (fun s c => congrArg (·.extMsg) (s.add_eq c)) caps

theorem capSet_operational (caps : List Cap) : (capSet caps).operational = caps.contains .operational :=
  capSet_contains (·.operational) _ rfl (fun s c => congrArg (·.operational) (s.add_eq c)) caps

theorem capSet_linkLocal (caps : List Cap) : (capSet caps).linkLocal = caps.contains .linkLocal :=
  capSet_contains (·.linkLocal) _ rfl (fun s c => congrArg (·.linkLocal) (s.add_eq c)) caps

theorem capSet_multisession (caps : List Cap) : (capSet caps).multisession = caps.any (isMs false) :=
  capSet_flag (·.multisession) _ rfl (fun s c => congrArg (·.multisession) (s.add_eq c)) caps

theorem capSet_multisessionCisco (caps : List Cap) : (capSet caps).multisessionCisco = caps.any (isMs true) :=
  capSet_flag (·.multisessionCisco) _ rfl (fun s c => congrArg (·.multisessionCisco) (s.add_eq c)) caps

theorem any_isMs_iff (caps : List Cap) (b : Bool) : caps.any (isMs b) = true ↔ ∃ v, Cap.multisession b v ∈ caps := by
  simp only [List.any_eq_true]
  constructor
  · rintro ⟨c, hc, h⟩
    cases c <;> simp [isMs] at h
    subst h; exact ⟨_, hc⟩
  · rintro ⟨v, hv⟩; exact ⟨_, hv, by simp [isMs]⟩

theorem foldl_last {α β : Type} (step : β → α → β) (p : α → Prop) [DecidablePred p] (v : α → β)
    (hp : ∀ acc x, p x → step acc x = v x) (hn : ∀ acc x, ¬ p x → step acc x = acc) (l : List α) (init : β) :
    (l.foldl step init = init ∧ ∀ x ∈ l, ¬ p x) ∨ ∃ x ∈ l, p x ∧ l.foldl step init = v x := by
  induction l generalizing init with
  | nil => exact .inl ⟨rfl, fun _ h => nomatch h⟩
  | cons a t ih =>
    rw [List.foldl_cons]
    rcases ih (step init a) with ⟨h, hno⟩ | ⟨x, hx, hpx, h⟩
    · by_cases ha : p a
      · exact .inr ⟨a, List.mem_cons_self, ha, h.trans (hp _ _ ha)⟩
      · exact .inl ⟨h.trans (hn _ _ ha), List.forall_mem_cons.2 ⟨ha, hno⟩⟩
    · exact .inr ⟨x, List.mem_cons_of_mem _ hx, hpx, h⟩

theorem capSet_asn4 (caps : List Cap) : (capSet caps).asn4 = asn4Of caps :=
  foldl_add_proj (·.asn4) _ (fun s c => congrArg (·.asn4) (s.add_eq c)) caps {}

theorem asn4Of_cases (caps : List Cap) :
    (asn4Of caps = none ∧ ∀ w, Cap.asn4 w ∉ caps) ∨ ∃ w, Cap.asn4 w ∈ caps ∧ asn4Of caps = some w := by
  rcases foldl_last (fun acc c => match c with | .asn4 v => some v | _ => acc) (fun c => (asn4? c).isSome) asn4?
    (fun _ c h => by cases c with | asn4 _ => rfl | _ => cases h)
    (fun _ c h => by cases c with | asn4 _ => exact absurd rfl h | _ => rfl) caps none with ⟨h, hn⟩ | ⟨c, hc, hp, h⟩
  · exact .inl ⟨h, fun w hw => hn _ hw rfl⟩
  · cases c with
    | asn4 w => exact .inr ⟨w, hc, h⟩
    | _ => cases hp

theorem asn4Of_mem (caps : List Cap) (v : Nat) (h : asn4Of caps = some v) : Cap.asn4 v ∈ caps := by
  rcases asn4Of_cases caps with ⟨h0, _⟩ | ⟨w, hw, e⟩
  · rw [h0] at h; cases h
  · rw [e] at h; cases h; exact hw

theorem asn4Of_isSome (caps : List Cap) : (asn4Of caps).isSome = true ↔ ∃ w, Cap.asn4 w ∈ caps := by
  rcases asn4Of_cases caps with ⟨h0, hn⟩ | ⟨w, hw, e⟩
  · rw [h0]; exact ⟨(nomatch ·), fun ⟨w, hw⟩ => absurd hw (hn w)⟩
  · rw [e]; exact ⟨fun _ => ⟨w, hw⟩, fun _ => rfl⟩

section accum
variable {β γ : Type} (ext : Cap → Option γ) (comb : β → γ → β) (d : β)

theorem foldl_accum_none (caps : List Cap) (acc : Option β) :
    caps.foldl (accum ext comb d) acc = none ↔ acc = none ∧ ∀ c ∈ caps, ext c = none := by
  induction caps generalizing acc with
  | nil => simp
  | cons c t ih =>
    rw [List.foldl_cons, ih, List.forall_mem_cons, accum]
    cases ext c <;> simp

/-- What the dict holds for an accumulating capability: the merge, item by item (`step` over `items g`), of all
    the payloads in the order received. -/
theorem foldl_accum_getD {δ : Type} (items : γ → List δ) (step : β → δ → β)
    (hc : ∀ b g, comb b g = (items g).foldl step b) (caps : List Cap) (acc : Option β) :
    (caps.foldl (accum ext comb d) acc).getD d
      = (caps.flatMap fun c => (ext c).elim [] items).foldl step (acc.getD d) := by
  induction caps generalizing acc with
  | nil => rfl
  | cons c t ih =>
    rw [List.foldl_cons, ih, List.flatMap_cons, List.foldl_append, accum]
    cases ext c with
    | none => rfl
    | some g => exact congrArg (t.flatMap _ |>.foldl step ·) (hc _ g)

end accum

theorem mem_addUnique {α : Type} [DecidableEq α] (l : List α) (y x : α) : x ∈ addUnique l y ↔ x ∈ l ∨ x = y := by
  fun_cases addUnique l y
  next hy => exact ⟨Or.inl, fun h => h.elim id (· ▸ hy)⟩
  · simp

theorem nodup_addUnique {α : Type} [DecidableEq α] (l : List α) (y : α) (h : l.Nodup) : (addUnique l y).Nodup := by
  fun_cases addUnique l y
  · exact h
  next hy =>
    rw [List.nodup_append]
    exact ⟨h, by simp, fun a ha b hb e => hy (List.mem_singleton.1 hb ▸ e ▸ ha)⟩

theorem mem_foldl_addUnique {α : Type} [DecidableEq α] (es l : List α) (x : α) :
    x ∈ es.foldl addUnique l ↔ x ∈ l ∨ x ∈ es := by
  induction es generalizing l with
  | nil => simp
  | cons e t ih => rw [List.foldl_cons, ih, mem_addUnique, List.mem_cons, or_assoc]

theorem nodup_foldl_addUnique {α : Type} [DecidableEq α] (es l : List α) (h : l.Nodup) :
    (es.foldl addUnique l).Nodup := by
  induction es generalizing l with
  | nil => exact h
  | cons e t ih => exact ih _ (nodup_addUnique l e h)

theorem mem_flatMap_payload {γ α : Type} (ext : Cap → Option γ) (items : γ → List α) (mk : γ → Cap)
    (h : ∀ c g, ext c = some g ↔ c = mk g) (caps : List Cap) (x : α) :
    x ∈ caps.flatMap (fun c => (ext c).elim [] items) ↔ ∃ g, mk g ∈ caps ∧ x ∈ items g := by
  rw [List.mem_flatMap]
  constructor
  · rintro ⟨c, hc, hx⟩
    cases e : ext c with
    | none => rw [e] at hx; cases hx
    | some g => rw [e] at hx; exact ⟨g, (h c g).1 e ▸ hc, hx⟩
  · rintro ⟨g, hc, hx⟩
    exact ⟨_, hc, by rw [(h _ g).2 rfl]; exact hx⟩

theorem mp?_eq_some (c : Cap) (f : Family) : mp? c = some f ↔ c = .mp f.1 f.2 := by
  cases c <;> simp [mp?, Prod.ext_iff]

theorem mpOf_eq (caps : List Cap) : mpOf caps = caps.filterMap mp? := rfl

theorem mem_mpOf (caps : List Cap) (f : Family) : f ∈ mpOf caps ↔ Cap.mp f.1 f.2 ∈ caps := by
  simp [mpOf_eq, List.mem_filterMap, mp?_eq_some]

theorem capSet_mp_eq (caps : List Cap) : (capSet caps).mp = caps.foldl (accum mp? addUnique []) none :=
  foldl_add_proj (·.mp) _ (fun s c => congrArg (·.mp) (s.add_eq c)) caps {}

theorem capSet_mp_getD (caps : List Cap) :
    (capSet caps).mp.getD [] = (caps.flatMap fun c => (mp? c).elim [] ([·])).foldl addUnique [] := by
  rw [capSet_mp_eq]; exact foldl_accum_getD mp? addUnique [] _ addUnique (fun _ _ => rfl) caps none

theorem capSet_mp_mem (caps : List Cap) (f : Family) :
    f ∈ (capSet caps).mp.getD [] ↔ Cap.mp f.1 f.2 ∈ caps := by
  rw [capSet_mp_getD, mem_foldl_addUnique, mem_flatMap_payload mp? _ (fun g => .mp g.1 g.2) mp?_eq_some]
  simp

theorem capSet_mp_nodup (caps : List Cap) : ((capSet caps).mp.getD []).Nodup := by
  rw [capSet_mp_getD]; exact nodup_foldl_addUnique _ _ List.nodup_nil

theorem capSet_mp_none (caps : List Cap) : (capSet caps).mp = none ↔ mpOf caps = [] := by
  rw [capSet_mp_eq, foldl_accum_none, mpOf_eq, List.filterMap_eq_nil_iff]; simp

theorem nexthop?_eq_some (c : Cap) (es : List Triple) : nexthop? c = some es ↔ c = .nexthop es := by
  cases c <;> simp [nexthop?]

theorem nexthopOf_eq (caps : List Cap) : nexthopOf caps = caps.flatMap (fun c => (nexthop? c).elim [] id) := by
  unfold nexthopOf; congr 1; funext c; cases c <;> rfl

theorem mem_nexthopOf (caps : List Cap) (t : Triple) : t ∈ nexthopOf caps ↔ ∃ es, Cap.nexthop es ∈ caps ∧ t ∈ es := by
  rw [nexthopOf_eq]; exact mem_flatMap_payload nexthop? id .nexthop nexthop?_eq_some caps t

theorem capSet_nexthop_eq (caps : List Cap) :
    (capSet caps).nexthop = caps.foldl (accum nexthop? (fun l es => es.foldl addUnique l) []) none :=
  foldl_add_proj (·.nexthop) _ (fun s c => congrArg (·.nexthop) (s.add_eq c)) caps {}

theorem capSet_nexthop_getD (caps : List Cap) : (capSet caps).nexthop.getD [] = (nexthopOf caps).foldl addUnique [] := by
  rw [capSet_nexthop_eq, nexthopOf_eq]
  exact foldl_accum_getD nexthop? _ [] id addUnique (fun _ _ => rfl) caps none

theorem capSet_nexthop_mem (caps : List Cap) (t : Triple) :
    t ∈ (capSet caps).nexthop.getD [] ↔ t ∈ nexthopOf caps := by
  rw [capSet_nexthop_getD, mem_foldl_addUnique]; simp

theorem capSet_nexthop_nodup (caps : List Cap) : ((capSet caps).nexthop.getD []).Nodup := by
  rw [capSet_nexthop_getD]; exact nodup_foldl_addUnique _ _ List.nodup_nil

theorem addpath?_eq_some (c : Cap) (es : List Triple) : addpath? c = some es ↔ c = .addpath es := by
  cases c <;> simp [addpath?]

theorem addpathEntries_eq (caps : List Cap) : addpathEntries caps = caps.flatMap (fun c => (addpath? c).elim [] id) := by
  unfold addpathEntries; congr 1; funext c; cases c <;> rfl

theorem mem_addpathEntries (caps : List Cap) (e : Triple) :
    e ∈ addpathEntries caps ↔ ∃ es, Cap.addpath es ∈ caps ∧ e ∈ es := by
  rw [addpathEntries_eq]; exact mem_flatMap_payload addpath? id .addpath addpath?_eq_some caps e

theorem srOf_cases (caps : List Cap) (f : Family) :
    (srOf caps f = 0 ∧ ∀ e ∈ addpathEntries caps, (e.1, e.2.1) ≠ f)
      ∨ ∃ e ∈ addpathEntries caps, (e.1, e.2.1) = f ∧ srOf caps f = e.2.2 :=
  foldl_last _ (fun e : Triple => (e.1, e.2.1) = f) (fun e => e.2.2) (fun _ _ h => if_pos h) (fun _ _ h => if_neg h) _ 0

theorem lookup_foldl_insertEntry (f : Family) (es : List Triple) (d : AList Family Nat) :
    (AList.lookup f (es.foldl insertEntry d)).getD 0
      = es.foldl (fun acc e => if (e.1, e.2.1) = f then e.2.2 else acc) ((AList.lookup f d).getD 0) := by
  induction es generalizing d with
  | nil => rfl
  | cons e t ih =>
    rw [List.foldl_cons, ih, insertEntry, AList.lookup_insert, List.foldl_cons]
    by_cases h : f = (e.1, e.2.1)
    · rw [if_pos h, if_pos h.symm]; rfl
    · rw [if_neg h, if_neg (Ne.symm h)]

theorem capSet_addpath_eq (caps : List Cap) :
    (capSet caps).addpath = caps.foldl (accum addpath? (fun d es => es.foldl insertEntry d) []) none :=
  foldl_add_proj (·.addpath) _ (fun s c => congrArg (·.addpath) (s.add_eq c)) caps {}

theorem capSet_addpath_getD (caps : List Cap) :
    (capSet caps).addpath.getD [] = (addpathEntries caps).foldl insertEntry [] := by
  rw [capSet_addpath_eq, addpathEntries_eq]
  exact foldl_accum_getD addpath? _ [] id insertEntry (fun _ _ => rfl) caps none

theorem capSet_addpath_sr (caps : List Cap) (f : Family) :
    (AList.lookup f ((capSet caps).addpath.getD [])).getD 0 = srOf caps f := by
  rw [capSet_addpath_getD, lookup_foldl_insertEntry]; rfl

theorem capSet_addpath_none (caps : List Cap) : (capSet caps).addpath = none ↔ ∀ es, Cap.addpath es ∉ caps := by
  rw [capSet_addpath_eq, foldl_accum_none]
  simp only [true_and, Option.eq_none_iff_forall_ne_some, ne_eq, addpath?_eq_some]
  exact ⟨fun h es hes => h _ hes es rfl, fun h c hc es e => h es (e ▸ hc)⟩

theorem lookup_none_of_not_mem_keys {β : Type} (k : Family) (l : AList Family β) (h : k ∉ AList.keys l) :
    AList.lookup k l = none := by
  fun_induction AList.lookup k l
  · rfl
  · exact absurd List.mem_cons_self h
  next ih => exact ih (fun hk => h (List.mem_cons_of_mem _ hk))

theorem lookup_map_self {β : Type} (g : Family → β) (keys : List Family) (f : Family) :
    AList.lookup f (keys.map (fun k => (k, g k))) = if f ∈ keys then some (g f) else none := by
  induction keys with
  | nil => rfl
  | cons k t ih =>
    simp only [List.map_cons, AList.lookup, ih, List.mem_cons]
    by_cases h : k = f
    · subst h; simp
    · have h' : ¬ f = k := fun e => h e.symm
      simp [h, h']

/-- `RequirePath.setup` builds one table per direction over the keys of both dicts.  Whatever the key order, reading
    it for a family gives the test on the two octets in force: a family that is no key of ours has octet 0 there. -/
theorem lookup_setup (b₁ b₂ : Nat → Bool) (h0 : b₁ 0 = false) (apS apR : AList Family Nat) (f : Family) :
    (AList.lookup f ((AList.keys apS ++ (AList.keys apR).filter (fun k => !(AList.keys apS).contains k)).map
        (fun k => (k, b₁ ((AList.lookup k apS).getD 0) && b₂ ((AList.lookup k apR).getD 0))))).getD false
      = (b₁ ((AList.lookup f apS).getD 0) && b₂ ((AList.lookup f apR).getD 0)) := by
  rw [lookup_map_self]
  split
  · rfl
  next h =>
    rw [lookup_none_of_not_mem_keys f apS (fun hk => h (List.mem_append_left _ hk)), Option.getD_none, Option.getD_none, h0]; rfl

theorem negotiateSets_send (a b c d : Nat) (s r : CapSet) (f : Family) :
    (negotiateSets a b c d s r).send f
      = (sendBit ((AList.lookup f (s.addpath.getD [])).getD 0) && recvBit ((AList.lookup f (r.addpath.getD [])).getD 0)) :=
  lookup_setup sendBit recvBit rfl _ _ f

theorem negotiateSets_receive (a b c d : Nat) (s r : CapSet) (f : Family) :
    (negotiateSets a b c d s r).receive f
      = (recvBit ((AList.lookup f (s.addpath.getD [])).getD 0) && sendBit ((AList.lookup f (r.addpath.getD [])).getD 0)) :=
  lookup_setup recvBit sendBit rfl _ _ f

end Exa.Open
