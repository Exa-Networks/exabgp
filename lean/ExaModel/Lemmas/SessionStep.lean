import ExaModel.Lemmas.SessionInv
/-!
# M-Session — `Inv` is preserved by every step
-/
namespace Exa.Session

theorem afterConnect_inv (s : State) (k : Conn) (hc : s.conn = some k) (hid : k.id < s.nextId)
    (hup : s.isUp = false) : Inv (afterConnect s).1 := by
  have hc' : (fsmTo .connect s).1.conn = some k := hc
  unfold afterConnect
  cases hr : k.rst
  · simp only [sendOn_ok hc' hr, if_true, andThen_fst]
    exact inv_awaitOpen (k := markSent .open k) rfl rfl rfl rfl hid hup
  · simp only [sendOn_fail hc' hr, Bool.false_eq_true, if_false, andThen_fst]
    exact (onNetErr_ended _ (by simp [fsmTo, hup])).inv

theorem establish2_inv (s : State) (hid : ∀ k, s.conn = some k → k.id < s.nextId) (hup : s.isUp = false) :
    Inv (establish2 s).1 := by
  unfold establish2
  rw [andThen_fst]
  split
  next hc =>
    have hc : s.conn = none := hc
    exact inv_idle rfl (by simp [fsmTo, hc]) (by simp [awaited]) (by simp) (by simp [fsmTo, hup]) (by simp [fsmTo, hc])
  next k hc => exact afterConnect_inv _ k hc (hid k hc) hup

theorem beginRun_inv (s : State) (hid : ∀ k, s.conn = some k → k.id < s.nextId) (hup : s.isUp = false) :
    Inv (beginRun s).1 := by
  unfold beginRun
  rw [andThen_fst]
  split
  next hp => exact inv_passive rfl rfl hp.2 hup
  next => exact establish2_inv _ hid hup

/-- what a chain of writes of kinds other than OPEN leaves of `s`: `peer.proto` is untouched as long as
    every write went through, and gone once one failed. -/
def Sent (s : State) (w : W) : Prop :=
  Same s w.1.1 ∧ (w.2 = true → w.1.1.conn = s.conn) ∧ (w.2 = false → w.1.1.conn = none)

theorem sendOn_sent {k : Kind} (hk : ∀ c, markSent k c = c) (s : State) : Sent s (sendOn k s) := by
  refine ⟨by rw [sendOn_fst]; exact ⟨rfl, rfl, rfl, rfl, rfl, rfl, rfl, rfl⟩, ?_, ?_⟩
  all_goals
    cases hc : s.conn with
    | none => rw [sendOn_none hc]; simp [hc]
    | some c => cases hr : c.rst <;> simp [sendOn_ok hc, sendOn_fail hc, hr, hk]

theorem andSend_sent {s : State} {w : W} {f : State → W} (hw : Sent s w) (hf : ∀ t, Sent t (f t)) :
    Sent s (w.andSend f) := by
  fun_cases W.andSend w f
  · rename_i h
    obtain ⟨h1, h2, h3⟩ := hf w.1.1
    exact ⟨hw.1.trans h1, fun h' => (h2 h').trans (hw.2.1 h), h3⟩
  · exact hw

theorem mainSends_sent (s : State) : Sent s (mainSends s) := by
  refine mainSends_cases (P := Sent) (fun s => ⟨Same.refl s, fun _ => rfl, nofun⟩) ?_ (fun _ _ _ => andSend_sent) s
  intro k upd s hk hupd
  obtain ⟨h1, h2, h3⟩ := sendOn_sent (k := k) (by rcases hk with rfl | rfl | rfl <;> exact fun _ => rfl) (upd s)
  exact ⟨(hupd s).1.trans h1, fun h => (h2 h).trans (hupd s).2.1, h3⟩

theorem mainExit_inv (s : State) (h : Inv s) (hf : s.fsm = .established) : Inv (mainExit s).1 := by
  fun_cases mainExit s
  · exact h
  · -- graceful restart: close without NOTIFICATION, then NetworkError('closing')
    rw [andThen_fst]
    refine (onNetErr_ended _ ?_).inv
    rw [closeP_fst]; simp [hf, quietFsm]
  · exact (onNotify_ended _ _ s fun _ => hf).inv

theorem mainTail_inv (s : State) (h : Inv s) (hf : s.fsm = .established) : Inv (mainTail s).1 := by
  obtain ⟨hsame, hok, _⟩ := mainSends_sent s
  have hft : (mainSends s).1.1.fsm = .established := hsame.fsm.trans hf
  unfold mainTail
  cases hw : (mainSends s).2
  · simp only [Bool.false_eq_true, if_false, andThen_fst]
    exact (onNetErr_ended _ fun _ => hft).inv
  · simp only [if_true, andThen_fst]
    exact mainExit_inv _ (h.congr hsame.fsm hsame.pc (by rw [hok hw]) hsame.nextId hsame.isUp) hft

theorem mainIter_inv (m : Option Msg) (s : State) (h : Inv s) (hf : s.fsm = .established) :
    Inv (mainIter m s).1 :=
  mainIter_cases (P := fun r => Inv r.1) m s (fun _ _ => (onNotify_ended _ _ s fun _ => hf).inv)
    (onNotification_ended s fun _ => hf).inv (mainTail_inv _ (h.congr rfl rfl rfl rfl rfl) hf)

theorem markConn_some {f : Conn → Conn} {s : State} {k : Conn} (hc : s.conn = some k) :
    markConn f s = { s with conn := some (f k) } := by
  simp only [markConn, hc]

theorem sendKa_inv (s : State) (k : Conn) (hf : s.fsm = .openconfirm) (hc : s.conn = some k)
    (h1 : k.openSent = true) (h2 : k.openRecv = true) (hid : k.id < s.nextId) (hup : s.isUp = false) :
    Inv (sendKa k.id s).1 := by
  cases hr : k.rst
  · simp only [sendKa, sendOn_ok hc hr, if_true, andThen_fst, setPc]
    exact inv_awaitKa (k := k) hf rfl rfl h1 h2 hid hup
  · simp only [sendKa, sendOn_fail hc hr, Bool.false_eq_true, if_false, andThen_fst]
    exact (onNetErr_ended _ (by simp [hup])).inv

theorem enterMain_inv (s : State) (k : Conn) (hf : s.fsm = .established) (hc : s.conn = some k)
    (h1 : k.openSent = true) (h2 : k.openRecv = true) (h3 : k.kaRecv = true) (hid : k.id < s.nextId) :
    Inv (enterMain k.id s).1 := by
  fun_cases enterMain k.id s
  · exact (onNotify_ended _ _ s fun _ => hf).inv
  · exact (onNotify_ended _ _ s fun _ => hf).inv
  · exact inv_main (k := k) hf rfl hc h1 h2 h3 hid

theorem deliverAlive_inv (m : Msg) (s : State) (h : Inv s) (c : Nat) (k : Conn)
    (haw : awaited s = some c) (hc : s.conn = some k) (hk : k.id = c) : Inv (deliverAlive m s).1 := by
  have hup := h.hup (not_done_of_awaited haw)
  have hid := h.connId k hc
  subst hk
  refine deliverAlive_cases (P := fun r => Inv r.1) m s (notify := fun _ _ => (onNotify_ended _ _ s hup).inv)
    (notification := (onNotification_ended s hup).inv) (openOk := ?openOk) (keepalive := ?keepalive) (main := ?main) (idle := h)
  case openOk =>
    intro c low hp
    obtain rfl : c = k.id := by simpa [awaited, hp] using haw
    obtain ⟨hf, hos⟩ := h.awaitOpen _ k hp hc rfl
    rw [andThen_fst, markConn_some hc]
    exact sendKa_inv _ { k with idLow := low, openRecv := true } rfl rfl hos rfl hid
      (h.isUp_false (by rw [hp]; simp) (by rw [hf]; simp))
  case keepalive =>
    intro c hp
    obtain rfl : c = k.id := by simpa [awaited, hp] using haw
    obtain ⟨hf, hos, hor⟩ := h.awaitKa _ k hp hc rfl
    rw [andThen_fst, markConn_some hc]
    exact enterMain_inv _ { k with kaRecv := true } rfl rfl hos hor rfl hid
  case main =>
    intro c hp
    obtain rfl : c = k.id := by simpa [awaited, hp] using haw
    exact mainIter_inv _ s h (h.main _ k hp hc rfl).1

theorem onProcessError_inv (m : Msg) (s : State) (h : Inv s) (hd : s.pc ≠ .done) : Inv (onProcessError m s).1 := by
  unfold onProcessError
  rw [andThen_fst]
  exact (onOther_ended _ (h.hup hd)).inv

theorem deliver_inv (m : Msg) (s : State) (h : Inv s) (c : Nat) (k : Conn)
    (haw : awaited s = some c) (hc : s.conn = some k) (hk : k.id = c) : Inv (deliver m s).1 := by
  fun_cases deliver m s
  · exact onProcessError_inv m s h (not_done_of_awaited haw)
  · exact deliverAlive_inv m s h c k haw hc hk

theorem readErr_inv (s : State) (h : Inv s) (hd : s.pc ≠ .done) : Inv (readErr s).1 := by
  unfold readErr
  rw [andThen_fst, closeConn_fst]
  exact (onNetErr_ended { s with conn := none } (h.hup hd)).inv

theorem advance_inv : ∀ (n : Nat) (s : State), Inv s → Inv (advance n s).1
  | 0, s, h => h
  | n + 1, s, h => by
    refine advance_cases (P := fun r => Inv r.1) n s h ?_ ?_
    · intro c k m rest haw hc hk hi
      exact advance_inv n _ (deliver_inv m _ (h.congr rfl rfl (by simp [hc, Conn.hist]) rfl rfl) c { k with inbox := rest } haw rfl hk)
    · intro c haw
      exact readErr_inv s h (not_done_of_awaited haw)

theorem staleIter_inv (s : State) (h : Inv s) (hd : s.pc ≠ .done) : Inv (staleIter s).1 :=
  (onOther_ended _ (h.hup hd)).inv

theorem closeIfAny_conn (s : State) : (closeIfAny s).1.conn = none := by
  unfold closeIfAny
  split
  · rw [closeP_fst]
  · rename_i h; simpa using h

theorem closeIfAny_pc (s : State) : (closeIfAny s).1.pc = s.pc := by
  unfold closeIfAny; split
  · rw [closeP_fst]
  · rfl

/-- `_close` under a suspended coroutine leaves `pc` where it was: IDLE, no connection. -/
theorem closeIfAny_inv {s : State} (h : Inv s) : Inv (closeIfAny s).1 := by
  unfold closeIfAny
  split
  · rw [closeP_fst]
    refine inv_idle rfl (by simp) (fun c haw => ⟨h.awaitId c haw, by simp⟩) (by simp) ?_ (by simp)
    intro hu
    simp only [Bool.and_eq_true] at hu
    exact (h.up hu.1).resolve_left fun he => by rw [he] at hu; cases hu.2
  · exact h

theorem stopP_inv {s : State} (h : Inv s) (hc : s.conn = none) : Inv (stopP s).1 := by
  refine inv_idle rfl (by simp [stopP, fsmTo, hc]) (fun c haw => ⟨h.awaitId c haw, by simp [stopP, fsmTo, hc]⟩)
    (fun _ => hc) ?_ (by simp [stopP, fsmTo, hc])
  intro hu
  rcases h.up hu with h1 | h1
  · obtain ⟨k, hk, _⟩ := h.established h1; rw [hc] at hk; cases hk
  · exact h1

theorem adopted_inv {s : State} (h : Inv s) (hc : s.conn = none) :
    Inv (if s.pc = .passiveWait then establish2 { s with conn := some { id := s.nextId }, nextId := s.nextId + 1 }
      else ({ s with conn := some { id := s.nextId }, nextId := s.nextId + 1 }, [])).1 := by
  split
  · rename_i hp
    have hf : s.fsm ≠ .established := by rcases (h.passive hp).1 with h1 | h1 <;> rw [h1] <;> simp
    exact establish2_inv _ (by simp) (h.isUp_false (by rw [hp]; simp) hf)
  · rename_i hp
    have hf := h.idle_of_noconn hc hp
    refine inv_idle hf (by simp) ?_ (by simpa using hp) ?_ (by simp)
    · intro c haw
      have := h.awaitId c haw
      refine ⟨Nat.lt_succ_of_lt this, ?_⟩
      intro k hk; simp at hk; subst hk; exact Nat.ne_of_gt this
    · intro hu; exact (h.up hu).resolve_left (by rw [hf]; simp)

theorem handleConnection_inv (s : State) (h : Inv s) : Inv (handleConnection s).1 := by
  fun_cases handleConnection s
  · exact h.bump
  · rw [andThen_fst]
    exact (closeIfAny_inv h).bump
  · unfold adopt
    simp only [andThen_fst]
    exact adopted_inv (closeIfAny_inv h) (closeIfAny_conn s)

theorem drainMain_inv : ∀ (n : Nat) (s : State), Inv s → Inv (drainMain n s).1
  | 0, s, h => h
  | n + 1, s, h => by
    refine drainMain_cases (P := fun r => Inv r.1) n s h ?_ ?_ ?_
    · intro c k hp hc hk
      exact drainMain_inv n _ (mainIter_inv _ s h (h.main c k hp hc hk).1)
    · intro c hp
      exact drainMain_inv n _ (staleIter_inv s h (by rw [hp]; simp))
    · intro c hp
      exact staleIter_inv s h (by rw [hp]; simp)

theorem react_inv (s : State) (e : Event) (h : Inv s) : Inv (react s e).1 := by
  have quiet : s.pc = .backoff ∨ s.pc = .connecting → s.fsm = .idle ∧ s.isUp = false := by
    intro hp
    have hf : s.fsm = .idle := hp.elim h.backoffIdle h.connectingIdle
    exact ⟨hf, h.isUp_false (by rcases hp with hp | hp <;> rw [hp] <;> simp) (by rw [hf]; simp)⟩
  have alive {c : Nat} (hp : s.pc = .awaitOpen c ∨ s.pc = .awaitKa c ∨ s.pc = .mainLoop c) : s.pc ≠ .done := by
    rcases hp with hp | hp | hp <;> rw [hp] <;> simp
  refine react_cases (P := fun r => Inv r.1) s e (stay := h) (incoming := handleConnection_inv s h)
    (begin := fun hp => beginRun_inv s h.connId (quiet (.inl hp)).2)
    (finished := ?finished)
    (connected := ?connected) (connectedApiGone := ?connectedApiGone) (connectFail := ?connectFail)
    (wire := fun k k' hc hh => h.congr rfl rfl (by simp [hc, hh]) rfl rfl)
    (openwait := fun c hp => (onNotify_ended _ _ s (h.hup (alive (.inl hp)))).inv)
    (holdMain := ?holdMain)
    (holdKa := fun c hp => (onNotify_ended _ _ s (h.hup (alive (.inr (.inl hp))))).inv)
    (tick := fun c k hp hc hk => mainIter_inv _ s h (h.main c k hp hc hk).1)
    (stale := fun c hp => staleIter_inv s h (alive (.inr (.inr hp))))
    (request := fun _ _ _ _ _ => h.congr rfl rfl rfl rfl rfl)
    (apiDies := fun _ => h.congr rfl rfl rfl rfl rfl)
    (stop := ?stop)
  -- `rw [andThen_fst]` first: through `⊳` the unifier would unfold the handlers
  case connected =>
    intro hp
    rw [andThen_fst]
    exact afterConnect_inv _ { id := s.nextId } rfl (by simp) (quiet (.inr hp)).2
  case connectedApiGone =>
    intro hp
    rw [andThen_fst]
    exact (onOther_ended _ (by simp [(quiet (.inr hp)).2])).inv
  case connectFail =>
    intro hp
    rw [andThen_fst]
    exact (onOther_ended _ ((closeIfAny_inv h).hup (by rw [closeIfAny_pc, hp]; simp))).inv
  case stop =>
    rw [andThen_fst]
    exact stopP_inv (closeIfAny_inv h) (closeIfAny_conn s)
  case finished =>
    intro hp
    have hf := (quiet (.inl hp)).1
    exact inv_idle hf h.connId (by simp [awaited, setPc]) (by simp [setPc]) (by simp [setPc]) (h.quietFresh (Or.inl hf))
  case holdMain =>
    intro c hp
    have hx : Inv (drainMain (s.refreshQ + 1) s).1 := drainMain_inv _ s h
    rw [andThen_fst]
    split
    · rename_i c' hp'
      exact (onNotify_ended _ _ _ (hx.hup (by rw [hp']; simp))).inv
    · exact hx

theorem step_inv (s : State) (e : Event) (h : Inv s) : Inv (step s e).1 :=
  advance_inv _ _ (react_inv s e h)

theorem run_inv : ∀ (evs : List Event) (s : State), Inv s → Inv (run s evs).1
  | [], _, h => h
  | e :: es, s, h => run_inv es _ (step_inv s e h)

end Exa.Session
