import ExaModel.Lemmas.PackBasic
/-! The loops of `messages`, one at a time. Each only cuts what it is given into messages: what the
    messages carry in one place (NLRI field, Withdrawn Routes, MP_REACH_NLRI, MP_UNREACH_NLRI),
    followed by what the loop still holds, is what it held at first followed by its input, in order
    and without what cannot fit alone; and each message is within `ms` (`msg_size`). Size, content
    and completeness of the whole are read off these equations in `PackSpec`. -/
namespace Exa.Pack

/-- what the four NLRI-carrying places of a message hold -/
structure SecOK (attr : Nat) (A4 W4 : Nlri → Prop) (R U : Mp → Prop) (m : Msg) : Prop where
  a4 : ∀ x ∈ m.ann4, A4 x
  w4 : ∀ x ∈ m.wd4, W4 x
  r : ∀ r, m.reach = some r → R r
  u : ∀ u, m.unreach = some u → U u
  /-- the attribute block is there whenever the message announces something -/
  att : m.attrs = true ∨ (sz m.ann4 = 0 ∧ m.reach = none)
  /-- the message is what `messages` assembles from its parts with the attribute block `attr` (so its length is) -/
  isMk : m = mkMsg attr m.wd4 m.unreach m.attrs m.reach m.ann4

/-- a message of the IPv4 loops: classic fields only, within `ms` -/
def Classic (ms attr : Nat) (m : Msg) : Prop :=
  ∃ w a b, m = mkMsg attr w none b none a ∧ sz w + sz a ≤ ms ∧ (b = true ∨ sz a = 0)

/-- a message of the MP loop: MP attributes and the attribute block only, within `ms` -/
def MpOnly (ms attr : Nat) (m : Msg) : Prop :=
  ∃ u r, m = mkMsg attr [] u true r [] ∧ owire r + owire u ≤ ms

/-- the attribute flag the withdraw loop and the final flush compute (`sz a ≠ 0`) is one `Classic` allows -/
theorem decide_ne_zero_or (n : Nat) : decide (n ≠ 0) = true ∨ n = 0 := by
  cases n <;> simp

section
variable {ms attr : Nat} {m : Msg} {A4 W4 : Nlri → Prop} {R U : Mp → Prop}

theorem SecOK.attrs_of_reach (s : SecOK attr A4 W4 R U m) {r : Mp} (hr : m.reach = some r) : m.attrs = true :=
  s.att.resolve_right fun ⟨_, h⟩ => by rw [hr] at h; cases h

theorem SecOK.attrs_of_ann4 (s : SecOK attr A4 W4 R U m) {x : Nlri} (hx : x ∈ m.ann4) (hpos : 0 < x.size) :
    m.attrs = true :=
  s.att.resolve_right fun ⟨h, _⟩ => by have := size_le_sz hx; omega

theorem Classic.len_le (h : Classic ms attr m) : m.len ≤ 23 + attr + ms := by
  obtain ⟨w, a, b, rfl, h, _⟩ := h
  have := mkMsg_len_le attr w none b none a
  simp only [owire_none] at this; omega

theorem MpOnly.len_le (h : MpOnly ms attr m) : m.len ≤ 23 + attr + ms := by
  obtain ⟨u, r, rfl, h⟩ := h
  have := mkMsg_len_le attr [] u true r []
  simp only [sz_nil] at this; omega

theorem Classic.sec (h : Classic ms attr m) (ha : ∀ x ∈ m.ann4, A4 x) (hw : ∀ x ∈ m.wd4, W4 x) :
    SecOK attr A4 W4 R U m := by
  obtain ⟨w, a, b, rfl, _, hb⟩ := h
  exact ⟨ha, hw, nofun, nofun, hb.imp_right (⟨·, rfl⟩), rfl⟩

theorem MpOnly.sec (h : MpOnly ms attr m) (hr : ∀ r, m.reach = some r → R r) (hu : ∀ u, m.unreach = some u → U u) :
    SecOK attr A4 W4 R U m := by
  obtain ⟨u, r, rfl, _⟩ := h
  exact ⟨List.forall_mem_nil _, List.forall_mem_nil _, hr, hu, .inl rfl, rfl⟩

end

theorem filterMap_cons_toList {α β} (f : α → Option β) (a : α) (l : List α) :
    (a :: l).filterMap f = (f a).toList ++ l.filterMap f := by
  cases h : f a <;> simp [h]

/-- `r` is a cut of the withdraws `W` and the announces `A`: its messages carry them in order, up
    to what it still holds, each within `ms` -/
structure V4Run (ms attr : Nat) (W A : List Nlri) (r : V4Res) : Prop where
  classic : ∀ m ∈ r.msgs, Classic ms attr m
  room : sz r.w + sz r.a ≤ ms
  ann : r.msgs.flatMap Msg.ann4 ++ r.a = A
  wd : r.msgs.flatMap Msg.wd4 ++ r.w = W

theorem V4Run.nil {ms attr : Nat} {w a : List Nlri} (h : sz w + sz a ≤ ms) :
    V4Run ms attr w a { msgs := [], w := w, a := a } :=
  ⟨List.forall_mem_nil _, h, rfl, rfl⟩

theorem V4Run.cons {ms attr : Nat} {W A w a : List Nlri} {r : V4Res} {b : Bool} (h : V4Run ms attr W A r)
    (hm : sz w + sz a ≤ ms) (hb : b = true ∨ sz a = 0) :
    V4Run ms attr (w ++ W) (a ++ A) { r with msgs := mkMsg attr w none b none a :: r.msgs } where
  classic := List.forall_mem_cons.2 ⟨⟨w, a, b, rfl, hm, hb⟩, h.classic⟩
  room := h.room
  ann := by simp only [List.flatMap_cons, mkMsg_ann4, List.append_assoc, h.ann]
  wd := by simp only [List.flatMap_cons, mkMsg_wd4, List.append_assoc, h.wd]

theorem v4AnnLoop_spec (ms attr : Nat) (xs w a : List Nlri) (h : sz w + sz a ≤ ms) :
    V4Run ms attr w (a ++ xs.filter (fun x => x.size ≤ ms)) (v4AnnLoop ms attr xs w a) := by
  fun_induction v4AnnLoop ms attr xs w a
  case case1 => simpa using V4Run.nil h
  case case2 hbig ih =>
    rw [List.filter_cons_of_neg (by simpa using hbig)]
    exact ih h
  case case3 x _ w a hfit _ ih =>
    rw [List.filter_cons_of_pos (by simpa using hfit), List.append_cons]
    exact ih (by simp; omega)
  case case4 x _ w a hfit _ _ ih =>
    have hle := Nat.le_of_not_gt hfit
    rw [List.filter_cons_of_pos (by simpa using hle)]
    simpa using (ih (by simpa using hle)).cons (b := true) h (.inl rfl)

theorem v4WdLoop_spec (ms attr : Nat) (xs w a : List Nlri) (h : sz w + sz a ≤ ms) :
    V4Run ms attr (w ++ xs.filter (fun x => x.size ≤ ms)) a (v4WdLoop ms attr xs w a) := by
  fun_induction v4WdLoop ms attr xs w a
  case case1 => simpa using V4Run.nil h
  case case2 hbig ih =>
    rw [List.filter_cons_of_neg (by simpa using hbig)]
    exact ih h
  case case3 x _ w a hfit _ ih =>
    rw [List.filter_cons_of_pos (by simpa using hfit), List.append_cons]
    exact ih (by simp; omega)
  case case4 x _ w a hfit _ _ ih =>
    have hle := Nat.le_of_not_gt hfit
    rw [List.filter_cons_of_pos (by simpa using hle)]
    simpa using (ih (by simpa using hle)).cons h (decide_ne_zero_or (sz a))

theorem v4WdPart_spec (inclW : Bool) (ms attr : Nat) (vw w a : List Nlri) (h : sz w + sz a ≤ ms) :
    V4Run ms attr (w ++ if inclW then vw.filter (fun x => x.size ≤ ms) else []) a
      (v4WdPart inclW ms attr vw w a) := by
  unfold v4WdPart
  cases inclW
  · simpa using V4Run.nil h
  · exact v4WdLoop_spec ms attr vw w a h

theorem v4Final_spec (ms attr : Nat) (w a : List Nlri) (h : sz w + sz a ≤ ms) :
    (∀ m ∈ v4Final attr w a, Classic ms attr m) ∧
    (∃ t, sz t = 0 ∧ (v4Final attr w a).flatMap Msg.ann4 ++ t = a) ∧
    (∃ t, sz t = 0 ∧ (v4Final attr w a).flatMap Msg.wd4 ++ t = w) := by
  fun_cases v4Final attr w a
  · refine ⟨fun m hm => ?_, ⟨[], rfl, by simp⟩, ⟨[], rfl, by simp⟩⟩
    obtain rfl := List.mem_singleton.1 hm
    exact ⟨w, a, _, rfl, h, decide_ne_zero_or (sz a)⟩
  · exact ⟨List.forall_mem_nil _, ⟨a, by omega, by simp⟩, ⟨w, by omega, by simp⟩⟩

theorem mem_firsts (k : Nat × Nat) (l : List (Nat × Nat)) : k ∈ firsts l ↔ k ∈ l := by
  fun_induction firsts l
  case case1 => simp
  case case2 h _ ih =>
    simp only [List.mem_cons, List.mem_filter, ih]
    by_cases hk : k = h <;> simp [hk]

theorem mem_groupsOf {xs : List Nlri} {g : (Nat × Nat) × List Nlri} :
    g ∈ groupsOf xs ↔ (∃ x ∈ xs, nhKey x = g.1) ∧ g.2 = xs.filter (fun x => nhKey x = g.1) := by
  obtain ⟨k, l⟩ := g
  simp only [groupsOf, List.mem_map, mem_firsts, Prod.mk.injEq]
  constructor
  · rintro ⟨_, h, rfl, rfl⟩; exact ⟨h, rfl⟩
  · rintro ⟨h, e⟩; exact ⟨k, h, rfl, e.symm⟩

theorem reachGen_eq_flatMap (maxi fam : Nat) : ∀ gs : List ((Nat × Nat) × List Nlri),
    reachGen maxi fam gs = gs.flatMap (fun g => (splitGroup maxi (5 + g.1.2) g.2 []).map
      (fun it => ({ fam := fam, nh := g.1.1, nhLen := g.1.2, hdr := 5 + g.1.2, items := it } : Mp)))
  | [] => rfl
  | (k, xs) :: gs => by rw [reachGen, reachGen_eq_flatMap maxi fam gs, List.flatMap_cons]

theorem mem_reachGen {maxi fam : Nat} {r : Mp} {gs : List ((Nat × Nat) × List Nlri)} :
    r ∈ reachGen maxi fam gs ↔
      ∃ g ∈ gs, ∃ it ∈ splitGroup maxi (5 + g.1.2) g.2 [],
        r = { fam := fam, nh := g.1.1, nhLen := g.1.2, hdr := 5 + g.1.2, items := it } := by
  simp only [reachGen_eq_flatMap, List.mem_flatMap, List.mem_map, eq_comm]

theorem reachGen_sound {maxi fam : Nat} {ra : List Nlri} {r : Mp} (hr : r ∈ reachGen maxi fam (groupsOf ra)) :
    r.fam = fam ∧ r.hdr = 5 + r.nhLen ∧ 0 < sz r.items ∧ r.wire ≤ maxi ∧
    ∀ x ∈ r.items, x ∈ ra ∧ x.nh = r.nh ∧ x.nhLen = r.nhLen ∧ attrLen (5 + x.nhLen + x.size) ≤ maxi := by
  obtain ⟨⟨k, xs⟩, hg, it, hit, rfl⟩ := mem_reachGen.1 hr
  obtain ⟨hpos, hb⟩ := splitGroup_chunk maxi (5 + k.2) xs [] (.inl rfl) it hit
  refine ⟨rfl, rfl, hpos, by rw [wire_eq]; exact hb, fun x hx => ?_⟩
  obtain ⟨hxs, hfit⟩ := splitGroup_sub hit hx
  rw [(mem_groupsOf.1 hg).2] at hxs
  obtain ⟨hxa, hk⟩ := List.mem_filter.1 hxs
  obtain rfl : nhKey x = k := by simpa using hk
  exact ⟨hxa, rfl, rfl, hfit⟩

theorem reachGen_complete {maxi fam : Nat} {ra : List Nlri} {x : Nlri} (hx : x ∈ ra) (hpos : 0 < x.size)
    (hfit : attrLen (5 + x.nhLen + x.size) ≤ maxi) : ∃ r ∈ reachGen maxi fam (groupsOf ra), x ∈ r.items := by
  obtain ⟨it, hit, hxit⟩ := splitGroup_cover (xs := ra.filter (fun y => nhKey y = nhKey x))
    (List.mem_filter.2 ⟨hx, by simp⟩) hpos hfit
  exact ⟨_, mem_reachGen.2 ⟨(nhKey x, _), mem_groupsOf.2 ⟨⟨x, hx, rfl⟩, rfl⟩, it, hit, rfl⟩, hxit⟩

theorem unreachGen_sound {maxi fam : Nat} {wa : List Nlri} {u : Mp} (hu : u ∈ unreachGen maxi fam wa) :
    u.fam = fam ∧ u.hdr = 3 ∧ 0 < sz u.items ∧ u.wire ≤ maxi ∧
    ∀ x ∈ u.items, x ∈ wa ∧ attrLen (3 + x.size) ≤ maxi := by
  obtain ⟨it, hit, rfl⟩ := List.mem_map.1 hu
  obtain ⟨hpos, hb⟩ := splitGroup_chunk maxi 3 wa [] (.inl rfl) it hit
  exact ⟨rfl, rfl, hpos, by rw [wire_eq]; exact hb, fun x hx => splitGroup_sub hit hx⟩

theorem unreachGen_complete {maxi fam : Nat} {wa : List Nlri} {x : Nlri} (hx : x ∈ wa) (hpos : 0 < x.size)
    (hfit : attrLen (3 + x.size) ≤ maxi) : ∃ u ∈ unreachGen maxi fam wa, x ∈ u.items := by
  obtain ⟨it, hit, hxit⟩ := splitGroup_cover hx hpos hfit
  exact ⟨_, List.mem_map.2 ⟨it, hit, rfl⟩, hxit⟩

/-- `l`, then what `s` still holds, is a cut of the MP_REACH attributes `R` and the MP_UNREACH
    attributes `U`: the messages carry them in order, each within `ms` -/
structure MpRun (ms attr : Nat) (R U : List Mp) (l : List Msg) (s : MpSt) : Prop where
  mp : ∀ m ∈ l, MpOnly ms attr m
  room : owire s.reach + owire s.unreach ≤ ms
  reach : l.filterMap Msg.reach ++ s.reach.toList = R
  unreach : l.filterMap Msg.unreach ++ s.unreach.toList = U

theorem MpRun.nil {ms attr : Nat} {p u : Option Mp} (h : owire p + owire u ≤ ms) :
    MpRun ms attr p.toList u.toList [] { reach := p, unreach := u } :=
  ⟨List.forall_mem_nil _, h, rfl, rfl⟩

theorem MpRun.cons {ms attr : Nat} {R U : List Mp} {l : List Msg} {s : MpSt} {p u : Option Mp}
    (h : MpRun ms attr R U l s) (hm : owire p + owire u ≤ ms) :
    MpRun ms attr (p.toList ++ R) (u.toList ++ U) (mkMsg attr [] u true p [] :: l) s where
  mp := List.forall_mem_cons.2 ⟨⟨u, p, rfl, hm⟩, h.mp⟩
  room := h.room
  reach := by rw [filterMap_cons_toList, mkMsg_reach, List.append_assoc, h.reach]
  unreach := by rw [filterMap_cons_toList, mkMsg_unreach, List.append_assoc, h.unreach]

theorem MpRun.append {ms attr : Nat} {R U U' : List Mp} {l l' : List Msg} {s s' : MpSt}
    (h : MpRun ms attr R U l s) (h' : MpRun ms attr s.reach.toList (s.unreach.toList ++ U') l' s') :
    MpRun ms attr R (U ++ U') (l ++ l') s' where
  mp := fun m hm => (List.mem_append.1 hm).elim (h.mp m) (h'.mp m)
  room := h'.room
  reach := by rw [List.filterMap_append, List.append_assoc, h'.reach, h.reach]
  unreach := by rw [List.filterMap_append, List.append_assoc, h'.unreach, ← List.append_assoc, h.unreach]

theorem feedReach_spec (ms attr : Nat) (rs : List Mp) (p : Option Mp) (hr : ∀ r ∈ rs, r.wire ≤ ms) (hp : owire p ≤ ms) :
    MpRun ms attr (p.toList ++ rs) [] (feedReach attr rs p).1 { reach := (feedReach attr rs p).2, unreach := none } := by
  fun_induction feedReach attr rs p
  case case1 => simpa using MpRun.nil (u := none) hp
  case case2 r _ ih => exact ih (fun r' h' => hr r' (List.mem_cons_of_mem _ h')) (hr r List.mem_cons_self)
  case case3 r _ p _ ih =>
    exact (ih (fun r' h' => hr r' (List.mem_cons_of_mem _ h')) (hr r List.mem_cons_self)).cons (p := some p) (u := none) hp

theorem feedUnreach_spec (ms attr : Nat) (us : List Mp) (p u : Option Mp) (hx : ∀ x ∈ us, x.wire ≤ ms)
    (h : owire p + owire u ≤ ms) :
    MpRun ms attr p.toList (u.toList ++ us) (feedUnreach ms attr us p u).1 (feedUnreach ms attr us p u).2 := by
  fun_induction feedUnreach ms attr us p u
  case case1 => simpa using MpRun.nil h
  case case2 x _ p u _ _ ih =>
    have := (ih (fun y hy => hx y (List.mem_cons_of_mem _ hy)) (by simpa using hx x List.mem_cons_self)).cons
      (p := p) (u := u) h
    rwa [show p.toList ++ none.toList = p.toList from List.append_nil _] at this
  case case3 x _ p u hc ih =>
    -- nothing is pending on the unreach side, and `x` fits next to the pending reach
    obtain rfl : u = none := by
      cases u with
      | none => rfl
      | some v => exact absurd (.inl rfl) hc
    have := hx x List.mem_cons_self
    exact ih (fun y hy => hx y (List.mem_cons_of_mem _ hy)) (by simp only [owire_some]; omega)

theorem MpRun.final {ms attr : Nat} {R U : List Mp} {l : List Msg} {s : MpSt} (h : MpRun ms attr R U l s) :
    (∀ m ∈ l ++ famFinal attr s, MpOnly ms attr m) ∧
    (l ++ famFinal attr s).filterMap Msg.reach = R ∧ (l ++ famFinal attr s).filterMap Msg.unreach = U := by
  have hf : (∀ m ∈ famFinal attr s, MpOnly ms attr m) ∧ (famFinal attr s).filterMap Msg.reach = s.reach.toList ∧
      (famFinal attr s).filterMap Msg.unreach = s.unreach.toList := by
    fun_cases famFinal attr s
    · refine ⟨fun m hm => ?_, by simp [filterMap_cons_toList], by simp [filterMap_cons_toList]⟩
      obtain rfl := List.mem_singleton.1 hm
      exact ⟨_, _, rfl, h.room⟩
    · rename_i hn
      cases hr : s.reach <;> cases hu : s.unreach <;> simp [hr, hu] at hn ⊢
  refine ⟨fun m hm => (List.mem_append.1 hm).elim (h.mp m) (hf.1 m), ?_, ?_⟩
  · rw [List.filterMap_append, hf.2.1, h.reach]
  · rw [List.filterMap_append, hf.2.2, h.unreach]

theorem famStep_spec (inclW : Bool) (ms attr fam : Nat) (ra wa : List Nlri) :
    (∀ m ∈ famStep inclW ms attr fam ra wa, MpOnly ms attr m) ∧
    (famStep inclW ms attr fam ra wa).filterMap Msg.reach = reachGen ms fam (groupsOf ra) ∧
    (famStep inclW ms attr fam ra wa).filterMap Msg.unreach
      = if inclW then unreachGen ms fam wa else [] := by
  have a := feedReach_spec ms attr (reachGen ms fam (groupsOf ra)) none
    (fun r hr => (reachGen_sound hr).2.2.2.1) (Nat.zero_le _)
  unfold famStep
  cases inclW
  · exact a.final
  · have b := feedUnreach_spec ms attr (unreachGen ms fam wa)
      (feedReach attr (reachGen ms fam (groupsOf ra)) none).2 none
      (fun u hu => (unreachGen_sound hu).2.2.2.1) a.room
    exact (a.append b).final

theorem famLoop_spec (inclW : Bool) (ms attr : Nat) (ma mw : List Nlri) (fs : List Nat) :
    (∀ m ∈ famLoop inclW ms attr ma mw fs, MpOnly ms attr m) ∧
    (famLoop inclW ms attr ma mw fs).filterMap Msg.reach
      = fs.flatMap (fun f => reachGen ms f (groupsOf (ma.filter (fun x => x.fam = f)))) ∧
    (famLoop inclW ms attr ma mw fs).filterMap Msg.unreach
      = if inclW then fs.flatMap (fun f => unreachGen ms f (mw.filter (fun x => x.fam = f))) else [] := by
  fun_induction famLoop inclW ms attr ma mw fs
  case case1 => simp
  case case2 f fs ih =>
    obtain ⟨s1, s2, s3⟩ := famStep_spec inclW ms attr f (ma.filter (fun x => x.fam = f)) (mw.filter (fun x => x.fam = f))
    obtain ⟨l1, l2, l3⟩ := ih
    refine ⟨fun m hm => (List.mem_append.1 hm).elim (s1 m) (l1 m), ?_, ?_⟩
    · rw [List.filterMap_append, s2, l2, List.flatMap_cons]
    · rw [List.filterMap_append, s3, l3]
      cases inclW <;> simp

theorem cut_sub : ∀ (l : List Msg), ∀ m ∈ (cut l).1, m ∈ l
  | [], _, hm => by cases hm
  | x :: xs, m, hm => by
    unfold cut at hm
    split at hm
    · cases hm
    · rcases List.mem_cons.1 hm with rfl | hm
      · exact List.mem_cons_self
      · exact List.mem_cons_of_mem _ (cut_sub xs m hm)

theorem cut_of_le : ∀ (l : List Msg), (∀ m ∈ l, m.len ≤ 65535) → cut l = (l, false)
  | [], _ => rfl
  | x :: xs, h => by
    have := cut_of_le xs (fun m hm => h m (List.mem_cons_of_mem _ hm))
    have hx : ¬ x.len > 65535 := Nat.not_lt.2 (h x List.mem_cons_self)
    simp [cut, hx, this]

end Exa.Pack
