import ExaModel.Lemmas.FlowRule
/-! ExaBGP's encoder (`exaPack`) against the RFC reference encoder: on good text it emits the
    reference encoding of the rule the text denotes, and the components of that rule are well-formed. -/
namespace Exa.Flow

theorem take_beN (n k v : Nat) : (beN (n + k) v).take n = beN n (v / 256 ^ k) := by
  induction n with
  | zero => simp [beN]
  | succ n ih =>
    have e : n + 1 + k = (n + k) + 1 := by omega
    rw [e]
    simp only [beN, List.take_succ_cons, ih]
    congr 1
    rw [Nat.div_div_eq_div_mul, ← Nat.pow_add, Nat.add_comm k n]

/-- `raw[:ceil(len/8)]` of a canonical address is the RFC pattern field (offset 0) -/
theorem prefix_bytes (N len addr : Nat) (hlen : len ≤ N * 8) (haddr : addr < 2 ^ (N * 8))
    (hmod : addr % 2 ^ (N * 8 - len) = 0) :
    (beN N addr).take (patBytes len) = patEncode len (addr / 2 ^ (N * 8 - len) % 2 ^ len) := by
  have hge := patBytes_ge len
  obtain ⟨k, rfl⟩ : ∃ k, N = patBytes len + k := ⟨N - patBytes len, by simp only [patBytes]; omega⟩
  have hq : addr / 2 ^ ((patBytes len + k) * 8 - len) < 2 ^ len :=
    Nat.div_lt_of_lt_mul (by rwa [← Nat.pow_add, Nat.sub_add_cancel hlen])
  rw [Nat.mod_eq_of_lt hq, take_beN, patEncode, pow256]
  congr 1
  -- the address is `q` shifted by the `k` whole bytes cut off and the padding of the last byte kept
  obtain ⟨q, rfl⟩ := Nat.dvd_of_mod_eq_zero hmod
  have hpos : ∀ n, 0 < 2 ^ n := fun n => Nat.pow_pos (by decide)
  rw [Nat.mul_div_cancel_left _ (hpos _),
    (by omega : (patBytes len + k) * 8 - len = k * 8 + (patBytes len * 8 - len)),
    Nat.pow_add, Nat.mul_assoc, Nat.mul_div_cancel_left _ (hpos _), Nat.mul_comm]

theorem cidrSize_eq (len : Nat) (h : len ≤ 128) : cidrSize len = patBytes len := by
  simp only [cidrSize, patBytes, if_pos h]

theorem b2n_decide_mod2 (x : Nat) : b2n (decide (x % 2 = 1)) = x % 2 := by
  rcases Nat.mod_two_eq_zero_or_one x with h | h <;> simp [h, b2n]

/-- the encoder classes pick the width by the thresholds of `widthCode`; the class only bounds it -/
theorem exaEncodeValue_good (m v : Nat) (hm : m = 1 ∨ m = 2 ∨ m = 4) (hv : v < 256 ^ m) :
    exaEncodeValue m (v : Int) = .ok (widthCode v, beN (2 ^ widthCode v) v) := by
  have h0 : (0 : Int) ≤ v := Int.natCast_nonneg v
  by_cases h1 : v < 256
  · have hi : (v : Int) < 256 := by omega
    simp [exaEncodeValue, widthCode, h0, h1, hi, beN, Nat.mod_eq_of_lt h1]
  · have hi : ¬ (v : Int) < 256 := by omega
    have hm1 : m ≠ 1 := by rintro rfl; omega
    by_cases h2 : v < 65536
    · have h2i : (v : Int) < 65536 := by omega
      simp [exaEncodeValue, widthCode, h1, hi, hm1, h2, h2i, beN]
    · have h2i : ¬ (v : Int) < 65536 := by omega
      have hm4 : m = 4 := by rcases hm with rfl | rfl | rfl <;> omega
      subst hm4
      have h4 : v < 4294967296 := hv
      have h4i : (v : Int) < 4294967296 := by omega
      simp [exaEncodeValue, widthCode, h1, hi, h2, h2i, h4, h4i, beN]

/-- flags without bits 3–5 are their three low bits (seen modulo 64, where there are eight such values) -/
theorem flags_low (f : Nat) (h : f % 64 < 8) : f % 16 = f / 4 % 2 * 4 + f / 2 % 2 * 2 + f % 2 := by
  have key : ∀ r < 8, r % 16 = r / 4 % 2 * 4 + r / 2 % 2 * 2 + r % 2 := by decide
  rw [← Nat.mod_mod_of_dvd f (by decide : 16 ∣ 64), ← bit_mod f 4 8, ← bit_mod f 2 16,
    ← Nat.mod_mod_of_dvd f (by decide : 2 ∣ 64)]
  exact key _ h

/-- the operation byte `_pack_from_rules` writes for such flags is the RFC operator byte of those flags -/
theorem exaOpByte (last : Bool) (f code : Nat) (h : f % 64 < 8) :
    b2n last * 128 + f / 64 % 2 * 64 + code * 16 + f % 16 = opByte last (opAnd f) code (opLt f) (opGt f) (opEq f) := by
  simp only [opByte, opAnd, opLt, opGt, opEq, b2n_decide_mod2, flags_low f h, Nat.add_assoc]

/-- an operation as the text parser builds it, fit for a component whose class writes up to `m` bytes -/
def GoodPair (m : Nat) (numeric : Bool) (p : Nat × Int) : Prop :=
  ∃ v : Nat, p.2 = (v : Int) ∧ v < 256 ^ m ∧ p.1 % 64 < 8 ∧ p.1 < 128 ∧ (numeric = false → p.1 / 4 % 2 = 0)

theorem exaPackOp_good (m : Nat) (last numeric : Bool) (p : Nat × Int) (hm : m = 1 ∨ m = 2 ∨ m = 4)
    (h : GoodPair m numeric p) :
    exaPackOp m last p.1 p.2 = .ok (encodeRawTerm (toRawTerm last (termOfFlags numeric false p.1 p.2))) := by
  obtain ⟨v, hv, hlt, hf, hf2, hb⟩ := h
  have hL : (if numeric then opLt p.1 else false) = opLt p.1 := by
    cases numeric
    · simp [opLt, hb rfl]
    · rfl
  rw [hv]
  simp only [exaPackOp, exaEncodeValue_good m v hm hlt, encodeRawTerm, toRawTerm, termOfFlags, Int.toNat_natCast,
    Bool.false_eq_true, if_false, hL, exaOpByte last p.1 _ hf]

theorem exaPackOps_good (m : Nat) (numeric : Bool) (ps : List (Nat × Int)) (hm : m = 1 ∨ m = 2 ∨ m = 4)
    (h : ∀ p ∈ ps, GoodPair m numeric p) :
    exaPackOps m ps = .ok ((toRawTerms (ps.map (fun p => termOfFlags numeric false p.1 p.2))).flatMap encodeRawTerm) := by
  induction ps with
  | nil => rfl
  | cons p rest ih =>
    have hp := exaPackOp_good m rest.isEmpty numeric p hm (h _ List.mem_cons_self)
    simp only [exaPackOps, hp, ih (fun x hx => h x (List.mem_cons_of_mem _ hx)), List.map_cons, toRawTerms_cons,
      List.flatMap_cons, List.isEmpty_map]

theorem mem_opPairs (g : List TComp) (p : Nat × Int) (h : p ∈ opPairs g) : ∃ ty, TComp.op ty p.1 p.2 ∈ g := by
  fun_induction opPairs g with
  | case1 => cases h
  | case2 ty f v cs ih =>
    rcases List.mem_cons.1 h with rfl | h
    · exact ⟨ty, List.mem_cons_self⟩
    · exact (ih h).imp fun _ h' => List.mem_cons_of_mem _ h'
  | case3 c cs _ ih => exact (ih h).imp fun _ h' => List.mem_cons_of_mem _ h'

/-- A text component the RFCs can express, in family `v6`: canonical prefixes (no host bits) with
    offset 0, operator flags as the parser builds them, values within the component's RFC width. -/
def GoodTComp (v6 : Bool) : TComp → Prop
  | .prefix4 ty addr len => v6 = false ∧ (ty = 1 ∨ ty = 2) ∧ len ≤ 32 ∧ addr < 2 ^ 32 ∧ addr % 2 ^ (32 - len) = 0
  | .prefix6 ty addr len off =>
    v6 = true ∧ (ty = 1 ∨ ty = 2) ∧ len ≤ 128 ∧ off = 0 ∧ addr < 2 ^ 128 ∧ addr % 2 ^ (128 - len) = 0
  | .op ty flags v =>
    (kindOf v6 ty = some .numeric ∨ kindOf v6 ty = some .bitmask) ∧
    GoodPair (maxWidth ty) (kindOf v6 ty == some .numeric) (flags, v)

structure GoodText (v6 : Bool) (text : List TComp) : Prop where
  comps : ∀ c ∈ text, GoodTComp v6 c
  /-- at most one destination and one source prefix -/
  onePrefix : ∀ id, id = 1 ∨ id = 2 → (text.filter (fun c => c.ty == id)).length ≤ 1
  /-- the first operation of a component carries no AND (the text grammar cannot write one) -/
  firstAnd : ∀ id, ∀ p ∈ (opPairs (text.filter (fun c => c.ty == id))).take 1, p.1 / 64 % 2 = 0

theorem group_mem (v6 : Bool) (text : List TComp) (id : Nat) (hg : GoodText v6 text) :
    ∀ c ∈ text.filter (fun c => c.ty == id), GoodTComp v6 c ∧ c.ty = id := by
  intro c hc
  have := List.mem_filter.1 hc
  exact ⟨hg.comps c this.1, by simpa using this.2⟩

theorem group_pairs (v6 : Bool) (text : List TComp) (id : Nat) (hg : GoodText v6 text) :
    ∀ p ∈ opPairs (text.filter (fun c => c.ty == id)), GoodPair (maxWidth id) (kindOf v6 id == some .numeric) p := by
  intro p hp
  obtain ⟨ty, hm⟩ := mem_opPairs _ p hp
  obtain ⟨hgx, rfl⟩ := group_mem v6 text id hg _ hm
  exact hgx.2

/-- IDs above every type in the text have empty groups: `GoodText.firstAnd` is a bounded condition -/
theorem firstAnd_of_lt (text : List TComp) (n : Nat) (hty : ∀ c ∈ text, c.ty < n)
    (h : ∀ id < n, ∀ p ∈ (opPairs (text.filter (fun c => c.ty == id))).take 1, p.1 / 64 % 2 = 0) :
    ∀ id, ∀ p ∈ (opPairs (text.filter (fun c => c.ty == id))).take 1, p.1 / 64 % 2 = 0 := by
  intro id p hp
  by_cases hid : id < n
  · exact h id hid p hp
  · rw [List.filter_eq_nil_iff.2 fun c hc => by have := hty c hc; simp only [beq_iff_eq]; omega] at hp
    cases hp

theorem good_prefix (v6 : Bool) (c : TComp) (h : GoodTComp v6 c) (hp : c.isPrefix = true) :
    c.isV6 = v6 ∧ (c.ty = 1 ∨ c.ty = 2) := by
  cases c with
  | prefix4 _ _ _ => exact ⟨h.1.symm, h.2.1⟩
  | prefix6 _ _ _ _ => exact ⟨h.1.symm, h.2.1⟩
  | op _ _ _ => cases hp

theorem exaFamily_good (v6 hint6 : Bool) (text : List TComp) (h : ∀ c ∈ text, GoodTComp v6 c)
    (hp : text.any (fun c => c.isPrefix) = true) : exaFamily hint6 text = v6 := by
  fun_cases exaFamily hint6 text with
  | case1 p hhead =>
    -- the list `settle_family` looks at holds only prefixes of the text, all of family `v6`
    rcases List.mem_append.1 (List.mem_of_head? hhead) with h' | h' <;> obtain ⟨hpt, hpp⟩ := List.mem_filter.1 h' <;>
      exact (good_prefix v6 p (h p hpt) (Bool.and_eq_true _ _ ▸ hpp).1).1
  | case2 hnone =>
    -- … and it holds the prefix there is
    obtain ⟨c, hc, hcp⟩ := List.any_eq_true.1 hp
    obtain ⟨h1, h2⟩ := List.append_eq_nil_iff.1 (List.head?_eq_none_iff.1 hnone)
    rcases (good_prefix v6 c (h c hc) hcp).2 with e | e
    · exact absurd hc (List.filter_eq_nil_iff.1 h1 c · (by simp [hcp, e]))
    · exact absurd hc (List.filter_eq_nil_iff.1 h2 c · (by simp [hcp, e]))

theorem encodeFlow_append (a b : Rule) : encodeFlow (a ++ b) = encodeFlow a ++ encodeFlow b := by
  simp [encodeFlow, encodeRaw]

theorem encodeFlow_nil : encodeFlow [] = [] := rfl

theorem encodeFlow_single (c : Comp) : encodeFlow [c] = encodeRawComp (toRaw c) := by
  simp [encodeFlow, encodeRaw]

theorem exaPackIds_good (sizeOf : Nat → Nat) (v6 : Bool) (kept : List TComp) (ids : List Nat)
    (h : ∀ id ∈ ids, exaPackGroup sizeOf id (kept.filter (fun c => c.ty == id))
      = .ok (encodeFlow (compOfGroup v6 id (kept.filter (fun c => c.ty == id))))) :
    exaPackIds sizeOf kept ids
      = .ok (encodeFlow (ids.flatMap (fun id => compOfGroup v6 id (kept.filter (fun c => c.ty == id))))) := by
  induction ids with
  | nil => rfl
  | cons id ids ih =>
    have h1 := h id List.mem_cons_self
    have h2 := ih (fun x hx => h x (List.mem_cons_of_mem _ hx))
    simp only [exaPackIds, h1, h2, List.flatMap_cons, encodeFlow_append]

/-- the sizes table agrees with the RFC widths wherever a good value needs it -/
def SizesOk (sizeOf : Nat → Nat) : Prop :=
  ∀ id, 3 ≤ id → id ≤ 13 → (sizeOf id = 1 ∨ sizeOf id = 2 ∨ sizeOf id = 4) ∧ maxWidth id ≤ sizeOf id

theorem goodPair_mono (m m' : Nat) (numeric : Bool) (p : Nat × Int) (hle : m ≤ m') (h : GoodPair m numeric p) :
    GoodPair m' numeric p := by
  obtain ⟨v, a, b, c, d, e⟩ := h
  exact ⟨v, a, Nat.lt_of_lt_of_le b (Nat.pow_le_pow_right (by omega) hle), c, d, e⟩

theorem termsOf_eq (numeric : Bool) (ps : List (Nat × Int)) (h : ∀ p ∈ ps.take 1, p.1 / 64 % 2 = 0) :
    termsOf numeric ps = ps.map (fun p => termOfFlags numeric false p.1 p.2) := by
  fun_cases termsOf numeric ps
  case case1 => rfl
  case case2 f v rest =>
    have h0 : f / 64 % 2 = 0 := h (f, v) (by simp)
    rw [List.map_cons]
    congr 1
    simp [termOfFlags, opAnd, h0]

theorem exaPackPrefix_good (v6 : Bool) (c : TComp) (h : GoodTComp v6 c) (hp : c.isPrefix = true) :
    exaPackPrefix c = .ok (encodeFlow (compOfGroup v6 c.ty [c])) := by
  cases c with
  | prefix4 ty addr len =>
    obtain ⟨_, _, hlen, haddr, hmod⟩ := h
    simp only [exaPackPrefix, compOfGroup, encodeFlow_single, toRaw, encodeRawComp, patOf, Nat.sub_zero,
      cidrSize_eq len (by omega), prefix_bytes 4 len addr (by omega) haddr hmod]
  | prefix6 ty addr len off =>
    obtain ⟨_, _, hlen, rfl, haddr, hmod⟩ := h
    simp only [exaPackPrefix, compOfGroup, encodeFlow_single, toRaw, encodeRawComp, patOf, Nat.sub_zero,
      cidrSize_eq len hlen, prefix_bytes 16 len addr (by omega) haddr hmod]
    rw [if_neg (by omega), if_neg (by omega)]
  | op _ _ _ => cases hp

theorem exaPackGroup_good (sizeOf : Nat → Nat) (v6 : Bool) (text : List TComp) (id : Nat)
    (hs : SizesOk sizeOf) (hg : GoodText v6 text) :
    exaPackGroup sizeOf id (text.filter (fun c => c.ty == id))
      = .ok (encodeFlow (compOfGroup v6 id (text.filter (fun c => c.ty == id)))) := by
  have hmem := group_mem v6 text id hg
  have hpairs := group_pairs v6 text id hg
  have hone := hg.onePrefix id
  have hfirst := hg.firstAnd id
  generalize text.filter (fun c => c.ty == id) = g at hmem hpairs hone hfirst
  cases g with
  | nil => rfl
  | cons c cs =>
    obtain ⟨hgc, rfl⟩ := hmem c List.mem_cons_self
    by_cases hp : c.ty = 1 ∨ c.ty = 2
    · -- a prefix group: exactly one prefix
      obtain rfl : cs = [] := List.eq_nil_of_length_eq_zero (by have := hone hp; simp only [List.length_cons] at this; omega)
      have hpre : c.isPrefix = true := by
        cases c with
        | op ty f v => exact absurd hp (by have := kindOf_ops_range v6 ty hgc.1; simp only [TComp.ty]; omega)
        | _ => rfl
      simp only [exaPackGroup, List.isEmpty_cons, Bool.false_eq_true, if_false, hp, if_true, exaPackPrefixes,
        exaPackPrefix_good v6 c hgc hpre, List.append_nil]
    · -- an operator group
      cases c with
      | prefix4 _ _ _ => exact absurd hgc.2.1 hp
      | prefix6 _ _ _ _ => exact absurd hgc.2.1 hp
      | op ty f0 v0 =>
        simp only [TComp.ty] at hp hpairs hfirst ⊢
        have hrange := kindOf_ops_range v6 ty hgc.1
        obtain ⟨hsz, hmw⟩ := hs ty hrange.1 hrange.2
        simp only [exaPackGroup, List.isEmpty_cons, Bool.false_eq_true, if_false, hp,
          exaPackOps_good (sizeOf ty) (kindOf v6 ty == some .numeric) _ hsz fun p hp' => goodPair_mono _ _ _ _ hmw (hpairs p hp'),
          compOfGroup, encodeFlow_single, toRaw, encodeRawComp, termsOf_eq _ _ hfirst]

theorem exaEncodeLength_eq (n : Nat) (h : n ≤ 4095) : exaEncodeLength n = .ok (lengthPrefix n) := by
  fun_cases exaEncodeLength n
  case case1 h240 => rw [lengthPrefix, if_pos h240]
  case case2 h240 _ => rw [lengthPrefix, if_neg h240]
  case case3 _ h' => exact absurd h h'

theorem exaPack_good (sizeOf : Nat → Nat) (v6 hint6 : Bool) (rd : Option Bytes) (text : List TComp)
    (hs : SizesOk sizeOf) (hg : GoodText v6 text)
    (hlen : (nlriPayload ⟨rd, toRule v6 text⟩).length ≤ 4095) :
    exaPack sizeOf hint6 rd text = .ok (exaFamily hint6 text, encodeNlri ⟨rd, toRule v6 text⟩) := by
  have hids := exaPackIds_good sizeOf v6 text allIds fun id _ => exaPackGroup_good sizeOf v6 text id hs hg
  have hlp : exaEncodeLength (rd.getD [] ++ encodeFlow (toRule v6 text)).length = .ok _ := exaEncodeLength_eq _ hlen
  rw [toRule] at hlp
  simp only [exaPack, hids, hlp]
  rfl

theorem termsOf_ne_nil (n : Bool) (ps : List (Nat × Int)) (h : ps ≠ []) : termsOf n ps ≠ [] := by
  cases ps with
  | nil => exact absurd rfl h
  | cons p rest => obtain ⟨f, v⟩ := p; simp [termsOf]

theorem mem_termsOf (n : Bool) (ps : List (Nat × Int)) (t : Term) (h : t ∈ termsOf n ps) :
    ∃ p ∈ ps, ∃ first, t = termOfFlags n first p.1 p.2 := by
  cases ps with
  | nil => simp [termsOf] at h
  | cons p rest =>
    obtain ⟨f, v⟩ := p
    simp only [termsOf, List.mem_cons, List.mem_map] at h
    rcases h with h | ⟨q, hq, hq'⟩
    · exact ⟨(f, v), List.mem_cons_self, true, h⟩
    · exact ⟨q, List.mem_cons_of_mem _ hq, false, hq'.symm⟩

theorem p6ok_zero (len : Nat) : p6ok len 0 = decide (len ≤ 128) := by
  simp only [p6ok, and_true, decide_eq_decide]; omega

theorem patOf_lt (width addr len off : Nat) : patOf width addr len off < 2 ^ (len - off) :=
  Nat.mod_lt _ (Nat.pow_pos (by decide))

/-- a group denotes at most one component -/
theorem compOfGroup_pairwise (R : Comp → Comp → Prop) (v6 : Bool) (id : Nat) (g : List TComp) :
    (compOfGroup v6 id g).Pairwise R := by
  cases g with
  | nil => exact .nil
  | cons c _ => cases c <;> exact List.pairwise_singleton R _

theorem compOfGroup_good (v6 : Bool) (text : List TComp) (id : Nat) (hg : GoodText v6 text) :
    ∀ c ∈ compOfGroup v6 id (text.filter (fun c => c.ty == id)), c.ty = id ∧ WFComp v6 c := by
  have hmem := group_mem v6 text id hg
  have hpairs := group_pairs v6 text id hg
  generalize text.filter (fun c => c.ty == id) = g at hmem hpairs
  cases g with
  | nil => nofun
  | cons c cs =>
    obtain ⟨hgc, hty⟩ := hmem c List.mem_cons_self
    cases c with
    | prefix4 ty addr len =>
      exact List.forall_mem_singleton.2 ⟨hty, hgc.1, hgc.2.1, hgc.2.2.1, patOf_lt 32 addr len 0⟩
    | prefix6 ty addr len off =>
      obtain ⟨hv, h12, hlen, rfl, _, _⟩ := hgc
      exact List.forall_mem_singleton.2 ⟨hty, hv, h12, by rw [p6ok_zero]; exact decide_eq_true hlen, patOf_lt 128 addr len 0⟩
    | op ty f v =>
      cases (hty : ty = id)
      refine List.forall_mem_singleton.2 ⟨rfl, hgc.1, termsOf_ne_nil _ _ (by simp [opPairs]), fun t ht => ?_, fun t ht => ?_⟩
      · obtain ⟨p, hp, first, rfl⟩ := mem_termsOf _ _ _ ht
        obtain ⟨v', hv', hlt, _⟩ := hpairs p hp
        refine ⟨?_, fun hn => by simp [termOfFlags, hn]⟩
        simp only [termOfFlags]; rw [hv', Int.toNat_natCast]; exact hlt
      · simp only [opPairs, termsOf, List.take_succ_cons, List.take_zero, List.mem_singleton] at ht
        subst ht
        simp [termOfFlags]

end Exa.Flow
