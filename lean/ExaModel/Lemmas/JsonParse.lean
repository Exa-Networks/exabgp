import ExaModel.Lemmas.JsonEsc
/-! The parser's equations branch by branch, and its completeness on rendered values: read with enough fuel,
    `render j` followed by anything that cannot continue a number gives back `j` and that rest. -/
namespace Exa.Json

theorem pValue_obj (f : Nat) (t : List Nat) : pValue (f + 1) (0x7B :: t) =
    match skipWs t with
    | [] => .error (.bad 0)
    | c2 :: t2 =>
      if c2 = 0x7D then .ok (.obj .nil, t2)
      else
        match pMembers f [] (c2 :: t2) with
        | .ok (m, r) => .ok (.obj m, r)
        | .error e => .error e := by
  rw [pValue]; rfl

theorem pValue_arr (f : Nat) (t : List Nat) : pValue (f + 1) (0x5B :: t) =
    match skipWs t with
    | [] => .error (.bad 0)
    | c2 :: t2 =>
      if c2 = 0x5D then .ok (.arr .nil, t2)
      else
        match pElems f (c2 :: t2) with
        | .ok (l, r) => .ok (.arr l, r)
        | .error e => .error e := by
  rw [pValue]; rfl

theorem pValue_str (f : Nat) (t : List Nat) : pValue (f + 1) (0x22 :: t) =
    match lexStr t with
    | some (s, r) => .ok (.str s, r)
    | none => .error (.bad (t.length + 1)) := by
  rw [pValue]; rfl

theorem pValue_t (f : Nat) (t : List Nat) : pValue (f + 1) (0x74 :: t) =
    if t.take 3 = [0x72, 0x75, 0x65] then .ok (.bool true, t.drop 3) else .error (.bad (t.length + 1)) := by
  rw [pValue]; rfl

theorem pValue_f (f : Nat) (t : List Nat) : pValue (f + 1) (0x66 :: t) =
    if t.take 4 = [0x61, 0x6C, 0x73, 0x65] then .ok (.bool false, t.drop 4) else .error (.bad (t.length + 1)) := by
  rw [pValue]; rfl

theorem pValue_n (f : Nat) (t : List Nat) : pValue (f + 1) (0x6E :: t) =
    if t.take 3 = [0x75, 0x6C, 0x6C] then .ok (.null, t.drop 3) else .error (.bad (t.length + 1)) := by
  rw [pValue]; rfl

theorem pValue_num {c : Nat} (f : Nat) (t : List Nat) (hc : c ∉ [0x7B, 0x5B, 0x22, 0x74, 0x66, 0x6E]) :
    pValue (f + 1) (c :: t) =
      if validNum (spanNum (c :: t)).1 = true then .ok (.num (spanNum (c :: t)).1, (spanNum (c :: t)).2)
      else .error (.bad (t.length + 1)) := by
  simp only [List.mem_cons, List.not_mem_nil, or_false, not_or] at hc
  rw [pValue]; simp only [hc, if_false]

theorem pMembers_quote (f : Nat) (seen : List Str) (t : List Nat) : pMembers (f + 1) seen (0x22 :: t) =
    match lexStr t with
    | none => .error (.bad (t.length + 1))
    | some (k, r) =>
      if k ∈ seen then .error (.dup k r.length)
      else
        match skipWs r with
        | [] => .error (.bad 0)
        | c2 :: t2 =>
          if c2 = 0x3A then
            match pValue f (skipWs t2) with
            | .error e => .error e
            | .ok (v, r2) =>
              match skipWs r2 with
              | [] => .error (.bad 0)
              | c3 :: t3 =>
                if c3 = 0x2C then
                  match pMembers f (k :: seen) (skipWs t3) with
                  | .ok (m, r3) => .ok (.cons k v m, r3)
                  | .error e => .error e
                else if c3 = 0x7D then .ok (.cons k v .nil, t3)
                else .error (.bad (t3.length + 1))
          else .error (.bad (t2.length + 1)) := by
  rw [pMembers]; rfl

theorem pElems_succ (f : Nat) (inp : List Nat) : pElems (f + 1) inp =
    match pValue f inp with
    | .error e => .error e
    | .ok (v, r) =>
      match skipWs r with
      | [] => .error (.bad 0)
      | c :: t =>
        if c = 0x2C then
          match pElems f (skipWs t) with
          | .ok (l, r2) => .ok (.cons v l, r2)
          | .error e => .error e
        else if c = 0x5D then .ok (.cons v .nil, t)
        else .error (.bad (t.length + 1)) := by
  rw [pElems]; rfl

theorem parse_eq_ok_iff {s : List Nat} {j : J} :
    parse s = .ok j ↔ ∃ r, pValue (s.length + 1) (skipWs s) = .ok (j, r) ∧ skipWs r = [] := by
  fun_cases parse s <;> simp [*, and_assoc]

theorem skipWs_cons_of_not_ws (c : Nat) (t : List Nat) (h : isWs c = false) : skipWs (c :: t) = c :: t := by
  simp [skipWs, h]

theorem skipWs_space (t : List Nat) : skipWs (0x20 :: t) = skipWs t := by
  simp [skipWs, isWs]

def restOk (rest : List Nat) : Prop := ∀ c, rest.head? = some c → isNumChar c = false

theorem restOk_nil : restOk [] := by intro c h; simp at h

theorem restOk_cons (c : Nat) (t : List Nat) (h : isNumChar c = false) : restOk (c :: t) := by
  intro c' h'; simp at h'; subst h'; exact h

theorem spanNum_append (lit rest : List Nat) (hl : lit.all isNumChar = true) (hr : restOk rest) :
    spanNum (lit ++ rest) = (lit, rest) := by
  induction lit with
  | nil =>
    cases rest with
    | nil => rfl
    | cons c t => simp [spanNum, hr c (by simp)]
  | cons c t ih =>
    simp only [List.all_cons, Bool.and_eq_true] at hl
    simp [spanNum, hl.1, ih hl.2]

theorem validNum_head (l : Str) (h : validNum l = true) : ∃ c t, l = c :: t ∧ (c = 0x2D ∨ 0x30 ≤ c ∧ c ≤ 0x39) := by
  cases l with
  | nil => simp [validNum] at h
  | cons c t =>
    refine ⟨c, t, rfl, ?_⟩
    by_cases hm : c = 0x2D
    · exact Or.inl hm
    · right
      simp only [validNum, hm, if_false] at h
      split at h
      · omega
      · split at h
        · omega
        · simp at h

theorem render_head (j : J) (hw : j.wf = true) :
    ∃ c tl, render j = c :: tl ∧ isWs c = false ∧ c ≠ 0x5D := by
  fun_cases render j
  case case4 lit =>
    simp only [J.wf, wfNum, Bool.and_eq_true] at hw
    obtain ⟨c, t, rfl, hc⟩ := validNum_head lit hw.1
    exact ⟨c, t, rfl, by simp [isWs]; omega, by omega⟩
  all_goals exact ⟨_, _, rfl, by decide, by decide⟩

theorem skipWs_render (j : J) (hw : j.wf = true) (X : List Nat) : skipWs (render j ++ X) = render j ++ X := by
  obtain ⟨c, tl, hr, hws, _⟩ := render_head j hw
  rw [hr, List.cons_append, skipWs_cons_of_not_ws _ _ hws]

theorem quote_append (k : Str) (X : List Nat) : quote k ++ X = 0x22 :: (escBody k ++ 0x22 :: X) := by
  simp [quote]

theorem restOk_TL (t : JL) (X : List Nat) : restOk (renderTL t ++ 0x20 :: X) := by
  cases t <;> exact restOk_cons _ _ (by decide)

theorem restOk_TM (t : JM) (X : List Nat) : restOk (renderTM t ++ 0x20 :: X) := by
  cases t <;> exact restOk_cons _ _ (by decide)

/-! ### sizes (the fuel a value needs) -/

mutual
def J.size : J → Nat
  | .arr l => 1 + l.size
  | .obj m => 1 + m.size
  | _ => 1
def JL.size : JL → Nat
  | .nil => 0
  | .cons h t => 1 + h.size + t.size
def JM.size : JM → Nat
  | .nil => 0
  | .cons _ v t => 1 + v.size + t.size
end

theorem J.size_pos (j : J) : 0 < j.size := by
  cases j <;> simp only [J.size] <;> omega

/-- The `+ 1` is the one `parse` adds to the length of its input; only a number with an empty literal needs it. -/
theorem size_le_render :
    (∀ j : J, j.size ≤ (render j).length + 1) ∧ (∀ m : JM, m.size ≤ (renderTM m).length) ∧
      ∀ l : JL, l.size ≤ (renderTL l).length := by
  apply render.mutual_induct <;> intros <;>
    simp only [J.size, JL.size, JM.size, render, renderTL, renderTM, List.length_append, List.length_cons,
      List.length_nil] <;> omega

theorem sizeL_le_render : (l : JL) → l.wf = true → l.size ≤ (renderTL l).length :=
  fun l _ => size_le_render.2.2 l

theorem sizeM_le_render : (m : JM) → m.wf = true → m.size ≤ (renderTM m).length :=
  fun m _ => size_le_render.2.1 m

/-- the value parser returns `h` and stops exactly after its rendering -/
def ValueOk (h : J) : Prop :=
  ∀ f rest, h.size ≤ f → restOk rest → pValue f (render h ++ rest) = .ok (h, rest)

theorem valueOk_of_succ {j : J}
    (h : ∀ f rest, j.size ≤ f + 1 → restOk rest → pValue (f + 1) (render j ++ rest) = .ok (j, rest)) : ValueOk j := by
  intro f rest hf hr
  cases f with
  | zero => have := j.size_pos; omega
  | succ f => exact h f rest hf hr

mutual
theorem pValue_render : (j : J) → j.wf = true → j.nodup = true → ValueOk j
  | .null, _, _ => valueOk_of_succ fun f rest _ _ => by simp [render, pValue_n]
  | .bool true, _, _ => valueOk_of_succ fun f rest _ _ => by simp [render, pValue_t]
  | .bool false, _, _ => valueOk_of_succ fun f rest _ _ => by simp [render, pValue_f]
  | .num lit, hw, _ => valueOk_of_succ fun f rest _ hr => by
    simp only [J.wf, wfNum, Bool.and_eq_true] at hw
    obtain ⟨c, t, rfl, hc⟩ := validNum_head lit hw.1
    have hsp := spanNum_append (c :: t) rest hw.2 hr
    simp only [render, List.cons_append] at hsp ⊢
    rw [pValue_num f _ (by simp only [List.mem_cons, List.not_mem_nil, or_false]; omega), hsp, if_pos hw.1]
  | .str s, hw, _ => valueOk_of_succ fun f rest _ _ => by
    simp only [J.wf] at hw
    simp only [render, quote_append, pValue_str, lexStr_escBody s hw]
  | .arr .nil, _, _ => valueOk_of_succ fun f rest _ _ => by simp [render, pValue_arr, skipWs, isWs]
  | .arr (.cons h t), hw, hn => valueOk_of_succ fun f rest hf _ => by
    simp only [J.wf, JL.wf, Bool.and_eq_true] at hw
    simp only [J.nodup, JL.nodup, Bool.and_eq_true] at hn
    have key := pElems_render t hw.2 hn.2 h hw.1 (pValue_render h hw.1 hn.1) f rest
      (by simp only [J.size, JL.size] at hf; omega)
    obtain ⟨c2, tl, hr, hws, h5d⟩ := render_head h hw.1
    simp only [render, List.cons_append, List.nil_append, List.append_assoc]
    rw [hr] at key ⊢
    rw [List.cons_append] at key ⊢
    rw [pValue_arr, skipWs_space, skipWs_cons_of_not_ws _ _ hws]
    simp only [if_neg h5d, key]
  | .obj .nil, _, _ => valueOk_of_succ fun f rest _ _ => by simp [render, pValue_obj, skipWs, isWs]
  | .obj (.cons k v t), hw, hn => valueOk_of_succ fun f rest hf _ => by
    simp only [J.wf, JM.wf, Bool.and_eq_true] at hw
    simp only [J.nodup, JM.nodup, JM.keys, Bool.and_eq_true, decide_eq_true_eq, List.nodup_cons] at hn
    have key := pMembers_render t hw.2 hn.2.2 k v [] hw.1.1 hw.1.2 (pValue_render v hw.1.2 hn.2.1)
      (by simp) (fun k' hk' => ⟨fun e => hn.1.1 (e ▸ hk'), by simp⟩) hn.1.2 f rest
      (by simp only [J.size, JM.size] at hf; omega)
    simp only [render, List.cons_append, List.nil_append, List.append_assoc]
    rw [quote_append] at key ⊢
    rw [pValue_obj, skipWs_space, skipWs_cons_of_not_ws 0x22 _ (by decide)]
    simp only [show ¬ ((0x22 : Nat) = 0x7D) by decide, if_false, key]
theorem pElems_render : (t : JL) → t.wf = true → t.nodup = true → ∀ h : J, h.wf = true → ValueOk h →
    ∀ f rest, h.size + t.size + 1 ≤ f →
      pElems f (render h ++ (renderTL t ++ (0x20 :: 0x5D :: rest))) = .ok (.cons h t, rest)
  | t, hw', hn', h, _, hv, f, rest, hf => by
    rcases f with _ | f
    · omega
    rw [pElems_succ, hv f _ (by omega) (restOk_TL t _)]
    match t, hw', hn', hf with
    | .nil, _, _, _ => simp [renderTL, skipWs, isWs]
    | .cons h' t', hw', hn', hf =>
      simp only [JL.wf, JL.nodup, Bool.and_eq_true] at hw' hn'
      have ih := pElems_render t' hw'.2 hn'.2 h' hw'.1 (pValue_render h' hw'.1 hn'.1) f rest
        (by simp only [JL.size] at hf; omega)
      simp only [renderTL, List.cons_append, List.nil_append, List.append_assoc,
        skipWs_cons_of_not_ws 0x2C _ (by decide), if_true, skipWs_space, skipWs_render h' hw'.1, ih]
theorem pMembers_render : (t : JM) → t.wf = true → t.nodup = true → ∀ (k : Str) (v : J) (seen : List Str),
    wfStr k = true → v.wf = true → ValueOk v → k ∉ seen → (∀ k' ∈ t.keys, k' ≠ k ∧ k' ∉ seen) → t.keys.Nodup →
    ∀ f rest, v.size + t.size + 1 ≤ f →
      pMembers f seen (quote k ++ (0x3A :: 0x20 :: (render v ++ (renderTM t ++ (0x20 :: 0x7D :: rest))))) = .ok (.cons k v t, rest)
  | t, hw', hn', k, v, seen, hk, hw, hv, hs, hdis, hnd, f, rest, hf => by
    rcases f with _ | f
    · omega
    rw [quote_append, pMembers_quote, lexStr_escBody k hk]
    simp only [hs, if_false, skipWs_cons_of_not_ws 0x3A _ (by decide), if_true, skipWs_space, skipWs_render v hw,
      hv f _ (by omega) (restOk_TM t _)]
    match t, hw', hn', hdis, hnd, hf with
    | .nil, _, _, _, _, _ => simp [renderTM, skipWs, isWs]
    | .cons k' v' t', hw', hn', hdis, hnd, hf =>
      simp only [JM.wf, JM.nodup, Bool.and_eq_true] at hw' hn'
      simp only [JM.keys, List.nodup_cons, List.forall_mem_cons] at hnd hdis
      have ih := pMembers_render t' hw'.2 hn'.2 k' v' (k :: seen) hw'.1.1 hw'.1.2 (pValue_render v' hw'.1.2 hn'.1)
        (by simp [hdis.1.1, hdis.1.2])
        (fun k'' hk'' => ⟨fun e => hnd.1 (e ▸ hk''), by simp [hdis.2 k'' hk'']⟩)
        hnd.2 f rest (by simp only [JM.size] at hf; omega)
      simp only [renderTM, List.cons_append, List.nil_append, List.append_assoc,
        skipWs_cons_of_not_ws 0x2C _ (by decide), if_true, skipWs_space]
      rw [quote_append k', skipWs_cons_of_not_ws 0x22 _ (by decide), ← quote_append k', ih]
end

end Exa.Json
