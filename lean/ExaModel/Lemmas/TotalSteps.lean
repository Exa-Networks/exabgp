import ExaModel.Model.Steps
import ExaModel.Lemmas.WireCountTlv
/-! C03 — the counting twins of `Model/Steps.lean` compute the original walks, every walk makes
    progress (consumes at least the header of what it parses), fuel equal to the input length is
    never what stops a walk, and the iteration counts are linear in the input length. -/
namespace Exa.Wire
open Exa

/-- One NLRI consumes at least its length octet. -/
theorem decNlri_progress (afi safi : Nat) (ap wd : Bool) (bs : Bytes) (n : Nlri) (rest : Bytes)
    (h : decNlri afi safi ap wd bs = .ok (n, rest)) : rest.length + 1 ≤ bs.length := by
  have h1 := decNlri_len afi safi ap wd bs n rest h
  have h2 := encNlri_length_pos safi wd n
  omega

/-- One attribute consumes at least flags, type code and one length octet. -/
theorem decAttr_progress (p : Params) (bs : Bytes) (a : Attr) (rest : Bytes)
    (h : decAttr p bs = .ok (a, rest)) : rest.length + 3 ≤ bs.length := by
  have h1 := decAttr_len p bs a rest h
  have h2 := encAttr_length_ge3 p a
  omega

theorem decNlrisSteps_eq_walkSteps (afi safi : Nat) (ap wd : Bool) :
    decNlrisSteps afi safi ap wd = walkSteps (decNlri afi safi ap wd) (3, 10) := by
  funext f bs
  fun_induction walkSteps (decNlri afi safi ap wd) (3, 10) f bs <;> simp only [decNlrisSteps, *]
  -- what is left differs in the `match` constant only; `rfl` sees that once the discriminant is a constructor
  cases (walkSteps (decNlri afi safi ap wd) (3, 10) _ _).1 <;> rfl

theorem decNlrisSteps_fst (afi safi : Nat) (ap wd : Bool) (f : Nat) (bs : Bytes) :
    (decNlrisSteps afi safi ap wd f bs).1 = decNlris afi safi ap wd f bs := by
  rw [decNlrisSteps_eq_walkSteps, decNlris_eq_walk]; exact walkSteps_fst f bs

theorem decNlrisSteps_le (afi safi : Nat) (ap wd : Bool) (f : Nat) (bs : Bytes) :
    (decNlrisSteps afi safi ap wd f bs).2 ≤ bs.length := by
  have := walkSteps_le (e0 := (3, 10)) 1 (Nat.le_refl 1) (decNlri_progress afi safi ap wd) f bs
  rw [decNlrisSteps_eq_walkSteps]; omega

theorem decNlris_fuel (afi safi : Nat) (ap wd : Bool) (f1 f2 : Nat) (bs : Bytes)
    (h1 : bs.length ≤ f1) (h2 : bs.length ≤ f2) :
    decNlris afi safi ap wd f1 bs = decNlris afi safi ap wd f2 bs := by
  rw [decNlris_eq_walk]; exact walk_fuel (decNlri_progress afi safi ap wd) f1 f2 bs h1 h2

/-- With the fuel the decoder uses (`bs.length`) an error of the NLRI walk is an error of one
    `decNlri`, never the exhaustion of the fuel. -/
theorem decNlris_error_is_real (afi safi : Nat) (ap wd : Bool) (f : Nat) (bs : Bytes) (e : Err)
    (hf : bs.length ≤ f) (h : decNlris afi safi ap wd f bs = .error e) :
    ∃ tail n, tail.length ≤ bs.length ∧ decNlri afi safi ap wd tail = .error e ∧ n = tail.length := by
  rw [decNlris_eq_walk] at h
  obtain ⟨tail, hl, hd⟩ := walk_error_is_real (decNlri_progress afi safi ap wd) f bs e hf h
  exact ⟨tail, _, hl, hd, rfl⟩

theorem decAttrsSteps_eq_walkSteps (p : Params) : decAttrsSteps p = walkSteps (decAttr p) (3, 1) := by
  funext f bs
  fun_induction walkSteps (decAttr p) (3, 1) f bs <;> simp only [decAttrsSteps, *]
  cases (walkSteps (decAttr p) (3, 1) _ _).1 <;> rfl

theorem decAttrsSteps_fst (p : Params) (f : Nat) (bs : Bytes) :
    (decAttrsSteps p f bs).1 = decAttrs p f bs := by
  rw [decAttrsSteps_eq_walkSteps, decAttrs_eq_walk]; exact walkSteps_fst f bs

theorem decAttrsSteps_ok (p : Params) (f : Nat) (bs : Bytes) (as : List Attr) (h : decAttrs p f bs = .ok as) :
    (decAttrsSteps p f bs).2 = as.length := by
  rw [decAttrs_eq_walk] at h
  rw [decAttrsSteps_eq_walkSteps, walkSteps_ok f bs as h]

theorem decAttrs_fuel (p : Params) (f1 f2 : Nat) (bs : Bytes) (h1 : bs.length ≤ f1) (h2 : bs.length ≤ f2) :
    decAttrs p f1 bs = decAttrs p f2 bs := by
  rw [decAttrs_eq_walk]
  exact walk_fuel (fun bs a rest h => Nat.lt_of_lt_of_le (by omega) (decAttr_progress p bs a rest h)) f1 f2 bs h1 h2

theorem decAsnsSteps_fst (w4 : Bool) (n : Nat) (bs : Bytes) :
    (decAsnsSteps w4 n bs).1 = decAsns w4 n bs := by
  fun_induction decAsns w4 n bs <;> simp only [decAsnsSteps, *, if_true, if_false]

/-- Every AS number but the one that fails consumes at least two bytes. -/
theorem decAsnsSteps_le (w4 : Bool) (n : Nat) (bs : Bytes) :
    (decAsnsSteps w4 n bs).2 ≤ n ∧ 2 * (decAsnsSteps w4 n bs).2 ≤ bs.length + 2 := by
  fun_induction decAsnsSteps w4 n bs with
  | case1 => exact ⟨Nat.le_refl _, Nat.zero_le _⟩
  | case2 => exact ⟨Nat.le_add_left .., Nat.le_add_left ..⟩
  | case3 n bs c ih =>
    rw [List.length_drop] at ih
    have hw : 2 ≤ (if w4 then 4 else 2) := by cases w4 <;> decide
    generalize (if w4 = true then 4 else 2) = k at *
    omega

theorem decAsnsSteps_ok (w4 : Bool) (n : Nat) (bs : Bytes) (l : List Nat) (rest : Bytes)
    (h : decAsns w4 n bs = some (l, rest)) : (decAsnsSteps w4 n bs).2 = n := by
  fun_induction decAsns w4 n bs generalizing l with
  | case1 => rfl
  | case3 n bs c l' r hd ih => cases h; simp only [decAsnsSteps, c, if_false, ih l' hd]
  | _ => cases h

theorem decSegsSteps_fst (w4 : Bool) (f : Nat) (bs : Bytes) :
    (decSegsSteps w4 f bs).1 = decSegs w4 f bs := by
  fun_induction decSegs w4 f bs <;> simp only [decSegsSteps, decAsnsSteps_fst, *, if_true, if_false]

/-- The count is of segment headers plus AS numbers looked at. -/
theorem decSegsSteps_le (w4 : Bool) (f : Nat) (bs : Bytes) : (decSegsSteps w4 f bs).2 ≤ bs.length := by
  fun_induction decSegsSteps w4 f bs with
  | case1 | case2 => exact Nat.zero_le _
  | case3 | case4 => exact Nat.le_add_left ..
  | case5 f t c r hc h =>
    have := (decAsnsSteps_le w4 c r).2
    simp only [List.length_cons]
    omega
  | case6 f t c r hc as rest h ih =>
    rw [decAsnsSteps_fst] at h
    have h1 := decAsnsSteps_ok w4 c r as rest h
    have h2 := (decAsns_len w4 c r as rest h).2
    have hw : 1 ≤ (if w4 then 4 else 2) := by cases w4 <;> decide
    have hm := Nat.mul_le_mul_right c hw
    simp only [List.length_cons]
    generalize (if w4 = true then 4 else 2) * c = m at *
    omega

theorem decSegs_fuel (w4 : Bool) (f1 f2 : Nat) (bs : Bytes) (h1 : bs.length ≤ f1) (h2 : bs.length ≤ f2) :
    decSegs w4 f1 bs = decSegs w4 f2 bs := by
  fun_induction decSegs w4 f1 bs generalizing f2 with
  | case1 => cases f2 <;> rfl  -- no bytes left
  | case2 => cases h1  -- no fuel left
  | case3 => obtain ⟨g, rfl⟩ := succ_of_cons_le h2; rfl  -- a lone byte
  | case4 f t c r hc => obtain ⟨g, rfl⟩ := succ_of_cons_le h2; simp only [decSegs, hc, if_true]  -- bad segment header
  | case5 f t c r hc hd => obtain ⟨g, rfl⟩ := succ_of_cons_le h2; simp only [decSegs, hc, if_false, hd]  -- AS numbers cut short
  | case6 f t c r hc as rest hd hs ih | case7 f t c r hc as rest hd _ hs ih =>
    -- a segment is read and the rest fails / succeeds: the rest is shorter, so `g` is fuel enough for it
    obtain ⟨g, rfl⟩ := succ_of_cons_le h2
    have hl := (decAsns_len w4 c r as rest hd).2
    simp only [List.length_cons] at h1 h2
    simp only [decSegs, hc, if_false, hd, ← ih g (by omega) (by omega), hs]

theorem decStackSteps_fst (n : Nat) (bs : Bytes) : (decStackSteps n bs).1 = decStack n bs := by
  fun_induction decStack n bs <;> simp only [decStackSteps, *, if_true, if_false]

theorem decNlrisSteps_drop_le (afi safi : Nat) (ap wd : Bool) (k : Nat) (v : Bytes) :
    (decNlrisSteps afi safi ap wd (v.drop k).length (v.drop k)).2 ≤ v.length :=
  Nat.le_trans (decNlrisSteps_le ..) (List.length_drop ▸ Nat.sub_le ..)

theorem valSteps_le (p : Params) (code : Nat) (v : Bytes) : valSteps p code v ≤ v.length := by
  fun_cases valSteps p code v
  case case1 | case2 => exact decSegsSteps_le ..  -- AS_PATH, AS4_PATH
  case case3 => exact Nat.le_trans (decAsnsSteps_le ..).1 (Nat.div_le_self ..)  -- the lists of 32-bit values
  case case5 | case8 => exact decNlrisSteps_drop_le ..  -- MP_REACH_NLRI, MP_UNREACH_NLRI of a supported family
  all_goals exact Nat.zero_le _

theorem decLen_progress (ext : Bool) (r : Bytes) (len : Nat) (body : Bytes) (h : decLen ext r = some (len, body)) :
    body.length + 1 ≤ r.length := by
  have := decLen_len ext r len body h
  cases ext <;> simp at this <;> omega

/-- the value `decAttr` looks at is shorter than what is left of the block, parsed or not -/
theorem attrValue_le (b : Nat) (t : Bytes) : (attrValue (b :: t)).2.length + 1 ≤ (b :: t).length := by
  unfold attrValue
  cases t with
  | nil => simp
  | cons code r =>
    simp only
    cases h : decLen (Flags.ofByte b).ext r with
    | none => simp
    | some pr =>
      obtain ⟨len, body⟩ := pr
      have := decLen_progress _ r len body h
      simp only
      split
      · simp
      · simp only [List.length_take, List.length_cons]
        omega

theorem attrValue_rest (p : Params) (bs : Bytes) (a : Attr) (rest : Bytes) (h : decAttr p bs = .ok (a, rest)) :
    (attrValue bs).2.length + rest.length + 3 ≤ bs.length := by
  obtain ⟨fb, code, r, len, body, rfl, hd, hl, _, _, _, rfl⟩ := decAttr_ok p bs a rest h
  have hb := decLen_progress _ r len body hd
  simp only [attrValue, hd, if_neg (Nat.not_lt.2 hl), List.length_take, List.length_drop, List.length_cons]
  omega

theorem attrsWork_le (p : Params) (f : Nat) (bs : Bytes) : attrsWork p f bs ≤ bs.length := by
  fun_induction attrsWork p f bs with
  | case1 | case2 => exact Nat.zero_le _
  | case3 f b t ih =>
    have hv := valSteps_le p (attrValue (b :: t)).1 (attrValue (b :: t)).2
    cases h : decAttr p (b :: t) with
    | error e =>
      have := attrValue_le b t
      simp only
      omega
    | ok pr =>
      obtain ⟨a, rest⟩ := pr
      have h1 := attrValue_rest p (b :: t) a rest h
      have h2 := ih rest
      simp only
      omega

end Exa.Wire
