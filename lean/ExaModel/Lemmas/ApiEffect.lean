import ExaModel.Model.Api
/-!
Lemmas about command effects: which RIBs a command can touch, how many replies it writes, and that it
changes nothing when the route grammar refuses its text.  `Touches` says what a command that acts
through parsed routes may do to the RIBs, `Handled` what a handler call may leave behind (RIBs and
replies), `Executed` the same for a routed call; the three facts are projections of `Handled`.
-/
namespace Exa.Api
open Exa Exa.Rib Exa.Generated.ApiTable

/-- the route grammar refuses whatever it is given (no route / exception) -/
def Refuses (env : Env) : Prop := ∀ k, env.parse k = none ∨ env.parse k = some []

theorem Refuses.nil {env : Env} (hp : Refuses env) {k : PKey} {rs : List PRoute} (h : env.parse k = some rs) :
    rs = [] := by
  rcases hp k with e | e <;> rw [e] at h <;> cases h
  rfl

theorem applyPeers_get {peers : List Nat} (f : Nat → Rib → Rib) (ribs : List Rib) {i : Nat} (h : i ∉ peers) :
    (applyPeers peers f ribs)[i]? = ribs[i]? := by
  have hc : peers.contains i = false := by simpa using h
  simp only [applyPeers, List.getElem?_mapIdx, hc]
  cases ribs[i]? <;> rfl

theorem foldl_get {α : Type} {g : List Rib → α → List Rib} {i : Nat} (hg : ∀ ribs a, (g ribs a)[i]? = ribs[i]?)
    (l : List α) : ∀ ribs, (l.foldl g ribs)[i]? = ribs[i]? := by
  induction l with
  | nil => exact fun _ => rfl
  | cons a l ih => exact fun ribs => (ih _).trans (hg ribs a)

theorem announceRoutes_get (nbrs : List Nbr) (v : Bool) {peers : List Nat} {i : Nat} (h : i ∉ peers) (rs : List PRoute)
    (ribs : List Rib) : (announceRoutes nbrs v peers rs ribs).1[i]? = ribs[i]? := by
  fun_induction announceRoutes nbrs v peers rs ribs with
  | case1 | case2 => rfl
  | case3 _ _ _ _ ih => exact ih.trans (applyPeers_get _ _ h)

/-- `ribs'` differs from `ribs` in the RIBs of `peers` at most, and not at all when the route grammar
    refuses every text: what a command that acts through the routes it parses may do. -/
structure Touches (env : Env) (peers : List Nat) (ribs ribs' : List Rib) : Prop where
  get : ∀ {i}, i ∉ peers → ribs'[i]? = ribs[i]?
  refused : Refuses env → ribs' = ribs

namespace Touches
variable {env : Env} {peers : List Nat} {ribs : List Rib} {k : PKey} {rs : List PRoute}

theorem refl : Touches env peers ribs ribs := ⟨fun _ => rfl, fun _ => rfl⟩

theorem trans {a b c : List Rib} (h1 : Touches env peers a b) (h2 : Touches env peers b c) : Touches env peers a c :=
  ⟨fun hi => (h2.get hi).trans (h1.get hi), fun hp => (h2.refused hp).trans (h1.refused hp)⟩

theorem announce (v : Bool) (hp : env.parse k = some rs) :
    Touches env peers ribs (announceRoutes env.nbrs v peers rs ribs).1 :=
  ⟨fun hi => announceRoutes_get _ v hi rs ribs, fun hr => by rw [hr.nil hp]; rfl⟩

theorem withdraw (hp : env.parse k = some rs) : Touches env peers ribs (withdrawRoutes env.nbrs peers rs ribs) :=
  ⟨fun hi => foldl_get (fun _ _ => applyPeers_get _ _ hi) rs ribs, fun hr => by rw [hr.nil hp]; rfl⟩

theorem groupAnnounce (hp : env.parse k = some rs) : Touches env peers ribs
    (rs.foldl (fun ribs r => if r.valid then announceOne env.nbrs peers r.route ribs else ribs) ribs) :=
  ⟨fun hi => foldl_get (fun _ r => by split; exact applyPeers_get _ _ hi; rfl) rs ribs, fun hr => by rw [hr.nil hp]; rfl⟩

end Touches

theorem groupOne_touches (env : Env) (peers : List Nat) (ribs : List Rib) (cmd : Cmd) :
    Touches env peers ribs (groupOne env peers ribs cmd).1 := by
  fun_cases groupOne env peers ribs cmd
  case case4 hp => exact .groupAnnounce hp
  case case6 hp => exact .withdraw hp
  all_goals exact .refl

theorem groupAll_touches (env : Env) (peers : List Nat) (cmds : List Cmd) :
    ∀ ribs, Touches env peers ribs (groupAll env peers cmds ribs).1 := by
  induction cmds with
  | nil => exact fun _ => .refl
  | cons c cs ih => exact fun ribs => (groupOne_touches env peers ribs c).trans (ih _)

/-- handlers that change a RIB without parsing any route text -/
def changesWithoutParsing : Handler → Bool
  | .watchdog_announce_watchdog | .watchdog_withdraw_watchdog | .rib_flush_adj_rib_out | .rib_clear_adj_rib => true
  | _ => false

theorem reply_len (st : St) (hack : st.ack = true) (r : Reply) : (st.reply r).length = 1 := by
  simp [St.reply, hack]

/-- What a call of handler `h` on `peers` may leave behind, starting from `st`.
    RIBs: what the routes its text parses to allow (`Touches`); or, for the four handlers that take no
    route text, the RIBs of its targets rewritten — `peers`, except that the watchdog handlers walk all
    neighbors while the quirk is on.
    Replies: one `st.reply`; `done` whatever the ack state (`enable-ack`, `disable-ack`); none
    (`silence-ack`, or outside the model); `crash`. -/
structure Handled (env : Env) (st : St) (h : Handler) (peers : List Nat) (r : St × Out) : Prop where
  ribs : Touches env peers st.ribs r.1.ribs ∨
    changesWithoutParsing h = true ∧ ∃ targets f, (env.q.watchdogAll = false → targets = peers) ∧
      r.1.ribs = applyPeers targets f st.ribs
  replies : (∃ x, r.2.replies = st.reply x) ∨ r.2.replies = [.done] ∨
    (r.2.replies = [] ∧ (h = .reactor_silence_ack ∨ r.2.modelled = false)) ∨ h = .reactor_crash

namespace Handled
variable {env : Env} {st : St} {h : Handler} {peers : List Nat} {r : St × Out}

theorem of_touches {st' : St} {x : Reply} {m : Bool} (t : Touches env peers st.ribs st'.ribs) :
    Handled env st h peers (st', { replies := st.reply x, modelled := m }) :=
  ⟨.inl t, .inl ⟨x, rfl⟩⟩

theorem get (hd : Handled env st h peers r) (hw : env.q.watchdogAll = false) {i : Nat} (hi : i ∉ peers) :
    r.1.ribs[i]? = st.ribs[i]? := by
  rcases hd.ribs with t | ⟨_, _, f, ht, e⟩
  · exact t.get hi
  · rw [e, ht hw]; exact applyPeers_get f st.ribs hi

theorem refused (hd : Handled env st h peers r) (hp : Refuses env) (hh : changesWithoutParsing h = false) :
    r.1.ribs = st.ribs := by
  rcases hd.ribs with t | ⟨hc, _⟩
  · exact t.refused hp
  · rw [hh] at hc; cases hc

theorem one (hd : Handled env st h peers r) (hack : st.ack = true) (hs : h ≠ .reactor_silence_ack)
    (hc : h ≠ .reactor_crash) (hm : r.2.modelled = true) : r.2.replies.length = 1 := by
  rcases hd.replies with ⟨x, e⟩ | e | ⟨_, e | e⟩ | e
  · rw [e]; exact reply_len st hack x
  · rw [e]; rfl
  · exact absurd e hs
  · rw [hm] at e; cases e
  · exact absurd e hc

end Handled

theorem runHandler_handled (env : Env) (st : St) (h : Handler) (peers : List Nat) (rest : List Tok) (action : Nat) :
    Handled env st h peers (runHandler env st h peers rest action) := by
  fun_cases runHandler env st h peers rest action
  case case3 hp => exact .of_touches (.announce _ hp)   -- route text parsed: announce
  case case4 hp => exact .of_touches (.withdraw hp)     -- route text parsed: withdraw
  -- the two watchdog handlers: the targets are `peers` only with the quirk off
  case case5 | case6 => exact ⟨.inr ⟨rfl, _, _, fun hw => if_neg (hw ▸ Bool.false_ne_true), rfl⟩, .inl ⟨_, rfl⟩⟩
  -- flush, clear (with peers, not `in`)
  case case8 | case11 => exact ⟨.inr ⟨rfl, _, _, fun _ => rfl, rfl⟩, .inl ⟨_, rfl⟩⟩
  case case16 | case17 => exact ⟨.inl .refl, .inr (.inl rfl)⟩                      -- `enable-ack`, `disable-ack`
  case case18 => exact ⟨.inl .refl, .inr (.inr (.inl ⟨rfl, .inl rfl⟩))⟩            -- `silence-ack`
  case case19 => exact ⟨.inl .refl, .inr (.inr (.inr rfl))⟩                        -- `crash`
  -- any other handler: `done` if `simpleDone`, else outside the model
  case case24 => rw [if_pos ‹simpleDone h = true›]; exact .of_touches .refl
  case case25 => rw [if_neg ‹¬simpleDone h = true›]; exact ⟨.inl .refl, .inr (.inr (.inl ⟨rfl, .inr rfl⟩))⟩
  -- every remaining branch leaves the RIBs alone and writes one `st.reply`
  all_goals exact .of_touches .refl

theorem lookupTok_mem {β : Type} (k : Tok) (l : List (Tok × β)) (v : β) (h : lookupTok k l = some v) :
    (k, v) ∈ l := by
  fun_induction lookupTok k l with
  | case1 => cases h
  | case2 _ _ _ hk => cases h; exact eq_of_beq hk ▸ List.mem_cons_self
  | case3 _ _ _ _ ih => exact List.mem_cons_of_mem _ (ih h)

theorem typeTables_ok : ∀ p ∈ v6AnnounceTypes ++ v6WithdrawTypes,
    p.2 ≠ Handler.reactor_silence_ack ∧ p.2 ≠ Handler.reactor_crash := by decide

theorem typeTables_parse : ∀ p ∈ v6AnnounceTypes ++ v6WithdrawTypes,
    p.1 ≠ Kw.k_watchdog → changesWithoutParsing p.2 = false := by decide

/-- What a routed call of `h` with words `rest` on `peers` may leave behind: it is handled as a call of
    `h` itself, or of the handler the type tables have for the first word (`v6_announce` /
    `v6_withdraw`) — on `peers`, except that `group end` replays the buffered lines on all peers of the
    service. -/
def Executed (env : Env) (st : St) (h : Handler) (peers : List Nat) (rest : List Tok) (r : St × Out) : Prop :=
  ∃ h' ps, (h' = h ∨ ∃ ty, rest.head? = some ty ∧ (ty, h') ∈ v6AnnounceTypes ++ v6WithdrawTypes) ∧
    (h ≠ .group_group_end → ps = peers) ∧ Handled env st h' ps r

theorem Executed.of_handled {env : Env} {st : St} {h : Handler} {peers : List Nat} {rest : List Tok} {r : St × Out}
    (hd : Handled env st h peers r) : Executed env st h peers rest r :=
  ⟨h, peers, .inl rfl, fun _ => rfl, hd⟩

theorem v6Typed_executed (env : Env) (st : St) (h : Handler) (ann : Bool) (peers : List Nat) (rest : List Tok) :
    Executed env st h peers rest (v6Typed env st ann peers rest) := by
  fun_cases v6Typed env st ann peers rest
  case case3 ty _ h' hl =>
    refine ⟨h', peers, .inr ⟨ty, rfl, List.mem_append.2 ?_⟩, fun _ => rfl, runHandler_handled ..⟩
    cases ann
    · exact .inr (lookupTok_mem _ _ _ hl)
    · exact .inl (lookupTok_mem _ _ _ hl)
  all_goals exact .of_handled (.of_touches .refl)

theorem exec_executed (env : Env) (st : St) (cmd : Cmd) (h : Handler) (sel : Option Sel) (peers : List Nat)
    (rest : List Tok) (action : Nat) :
    Executed env st h peers rest (exec env st cmd (.call h sel peers rest action)) := by
  unfold exec
  dsimp only
  split
  · exact v6Typed_executed ..
  · exact v6Typed_executed ..
  · split <;> exact .of_handled (.of_touches .refl)
  · split
    · exact .of_handled (.of_touches .refl)
    · exact ⟨_, _, .inl rfl, fun hg => absurd rfl hg, .of_touches (groupAll_touches ..)⟩
  · split
    · exact .of_handled (.of_touches .refl)
    · exact .of_handled (.of_touches (groupAll_touches ..))
  · exact .of_handled (runHandler_handled ..)

theorem exec_get (env : Env) (st : St) (cmd : Cmd) (h : Handler) (sel : Option Sel) {peers : List Nat}
    (rest : List Tok) (action : Nat) {i : Nat} (hw : env.q.watchdogAll = false) (hg : h ≠ .group_group_end)
    (hi : i ∉ peers) : (exec env st cmd (.call h sel peers rest action)).1.ribs[i]? = st.ribs[i]? := by
  obtain ⟨_, ps, _, hps, hd⟩ := exec_executed env st cmd h sel peers rest action
  exact hd.get hw (hps hg ▸ hi)

theorem exec_one (env : Env) (st : St) (cmd : Cmd) (r : Routed) (hack : st.ack = true)
    (hs : ∀ sel peers rest action, r ≠ .call .reactor_silence_ack sel peers rest action)
    (hc : ∀ sel peers rest action, r ≠ .call .reactor_crash sel peers rest action)
    (hm : (exec env st cmd r).2.modelled = true) : (exec env st cmd r).2.replies.length = 1 := by
  cases r with
  | buffer => exact reply_len st hack _
  | error => exact reply_len st hack _
  | call h sel peers rest action =>
    obtain ⟨h', _, hh, _, hd⟩ := exec_executed env st cmd h sel peers rest action
    rcases hh with rfl | ⟨_, _, hmem⟩
    · exact hd.one hack (fun e => hs sel peers rest action (e ▸ rfl)) (fun e => hc sel peers rest action (e ▸ rfl)) hm
    · exact hd.one hack (typeTables_ok _ hmem).1 (typeTables_ok _ hmem).2 hm

theorem exec_refused (env : Env) (st : St) (cmd : Cmd) (r : Routed) (hp : Refuses env)
    (hh : ∀ h sel peers rest action, r = .call h sel peers rest action →
      changesWithoutParsing h = false ∧ rest.head? ≠ some Kw.k_watchdog) :
    (exec env st cmd r).1.ribs = st.ribs := by
  cases r with
  | buffer => rfl
  | error => rfl
  | call h sel peers rest action =>
    obtain ⟨h1, h2⟩ := hh h sel peers rest action rfl
    obtain ⟨h', _, hh', _, hd⟩ := exec_executed env st cmd h sel peers rest action
    rcases hh' with rfl | ⟨ty, hty, hmem⟩
    · exact hd.refused hp h1
    · exact hd.refused hp (typeTables_parse _ hmem fun e => h2 (e ▸ hty))

end Exa.Api
