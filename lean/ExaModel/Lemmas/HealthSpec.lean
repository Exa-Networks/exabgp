import ExaModel.Model.Health
/-! The closed form of a healthcheck command: `specCmd` is the command for a state as a record of
fields, `Cmd.tokens` its text, and the imperative `exabgp()` loop of the model writes exactly that.
`specCmd` takes the same decisions as `lineTokens`, test for test (`nonEmpty` for Python truthiness):
it is the model's f-string assembly read as a record, not a second account of the helper.  What
`lineTokens_spec` and `exabgpLines_spec` add is that a line is a function of these eleven fields
rendered in one fixed order, and that the `k`-th line carries the state's metric plus `k` increments. -/
namespace Exa.Health

/-- An API route command, field by field. -/
structure Cmd where
  peers : List String            -- [] = every peer (`peer *`)
  announce : Bool                -- announce / withdraw
  pfx : String                   -- the advertised ip / network
  nextHop : String               -- address or "self"
  med : Option Int
  localPref : Option Int
  community : Option String
  extCommunity : Option String
  largeCommunity : Option String
  asPath : Option String
  pathId : Option Int
deriving DecidableEq, Repr

def optInt (kw : String) : Option Int → List String
  | some v => [kw, toString v]
  | none => []

def optList (kw : String) : Option String → List String
  | some v => [kw, "[", v, "]"]
  | none => []

def Cmd.selector (k : Cmd) : String :=
  match k.peers with
  | [] => "peer *"
  | [n] => "peer " ++ n
  | ns => "peer [ " ++ " , ".intercalate ns ++ " ]"

/-- the text of a command: selector, action, `route <prefix> next-hop <nh>`, then the attributes in
    the helper's order, then the path id -/
def Cmd.tokens (k : Cmd) : List String :=
  [k.selector, if k.announce then "announce" else "withdraw", "route", k.pfx, "next-hop", k.nextHop]
    ++ optInt "med" k.med ++ optInt "local-preference" k.localPref
    ++ optList "community" k.community ++ optList "extended-community" k.extCommunity
    ++ optList "large-community" k.largeCommunity ++ optList "as-path" k.asPath
    ++ optInt "path-information" k.pathId

def Cmd.render (k : Cmd) : String := " ".intercalate k.tokens

def nonEmpty : Option String → Option String
  | some s => if s != "" then some s else none
  | none => none

/-- What the configuration says the `k`-th address must be announced / withdrawn with in state `t`:
    metric of the state plus `k` times the increment; the state's community (the disabled community
    replaces the community in DOWN and DISABLED when set); the state's AS path, else the common one;
    next hop, local preference, extended / large communities and path id as configured; attributes
    only on announcements; withdrawal in every state but UP under `--withdraw-on-down`, and always
    for EXIT. -/
def specCmd (c : Cfg) (t : St) (k : Nat) (ip : String) : Cmd :=
  let ann : Bool := if t == .exit then false else if c.withdrawOnDown then t == .up else true
  { peers := if c.neighbors.any (· == "*") then [] else c.neighbors
    announce := ann
    pfx := ip
    nextHop := c.nextHop.getD "self"
    med := if ann then some (metricOf c t + (k : Int) * c.increase) else none
    localPref := if ann && c.localPref ≥ 0 then some c.localPref else none
    community := if ann then
        (if (t == .down || t == .disabled) && (nonEmpty c.disabledCommunity).isSome
          then nonEmpty c.disabledCommunity else nonEmpty c.community)
      else none
    extCommunity := if ann then nonEmpty c.extCommunity else none
    largeCommunity := if ann then nonEmpty c.largeCommunity else none
    asPath := if ann then nonEmpty (asPathOf c t) else none
    pathId := pathIdOf c }

theorem truthy_eq (o : Option String) : truthy o = (nonEmpty o).isSome := by
  cases o with
  | none => rfl
  | some s => by_cases h : s = "" <;> simp [truthy, nonEmpty, h]

theorem nonEmpty_eq (o : Option String) : nonEmpty o = if truthy o then o else none := by
  cases o with
  | none => rfl
  | some s => by_cases h : s = "" <;> simp [truthy, nonEmpty, h]

theorem selector_spec (c : Cfg) (t : St) (k : Nat) (ip : String) :
    (specCmd c t k ip).selector = selector c := by
  simp only [Cmd.selector, specCmd, selector]
  by_cases hs : c.neighbors.any (· == "*") = true
  · simp [hs]
  · simp only [hs]
    cases hn : c.neighbors with
    | nil => simp
    | cons a rest => cases rest <;> simp

theorem announces_spec (c : Cfg) (t : St) :
    (if t == .exit then false else if c.withdrawOnDown then t == .up else true) = announces c t := by
  simp only [announces]
  cases c.withdrawOnDown <;> cases t <;> rfl

theorem communityOf_spec (c : Cfg) (t : St) :
    communityOf c t =
      (if (t == .down || t == .disabled) && (nonEmpty c.disabledCommunity).isSome
        then nonEmpty c.disabledCommunity else nonEmpty c.community) := by
  unfold communityOf
  rw [← truthy_eq]
  cases h1 : truthy c.community <;> cases h2 : truthy c.disabledCommunity <;>
    cases h3 : (t == .down || t == .disabled) <;> simp [h1, h2, nonEmpty_eq]

theorem ite_append_optList (a : List String) (kw : String) (o : Option String) :
    (if truthy o then a ++ [kw, "[", o.getD "", "]"] else a) = a ++ optList kw (nonEmpty o) := by
  rw [nonEmpty_eq]
  cases o with
  | none => simp [truthy, optList]
  | some s => split <;> simp [optList]

theorem ite_append_optInt (a : List String) (kw : String) (p : Prop) [Decidable p] (v : Int) :
    (if p then a ++ [kw, toString v] else a) = a ++ optInt kw (if p then some v else none) := by
  split <;> simp [optInt]

theorem lineTokens_spec (c : Cfg) (t : St) (k : Nat) (ip : String) :
    lineTokens c t (metricOf c t + (k : Int) * c.increase) ip = (specCmd c t k ip).tokens := by
  have hsel := selector_spec c t k ip
  unfold lineTokens Cmd.tokens
  rw [hsel]
  simp only [specCmd, announces_spec, ← communityOf_spec]
  cases ha : announces c t
  · cases pathIdOf c <;> simp [optInt, optList]
  · simp only [ite_append_optList, ite_append_optInt]
    cases communityOf c t <;> cases pathIdOf c <;> simp [optInt, optList]

theorem exabgpLoop_eq (c : Cfg) (t : St) (m : Int) (ips : List String) :
    exabgpLoop c t m ips = ips.mapIdx fun k ip => line c t (m + (k : Int) * c.increase) ip := by
  induction ips generalizing m with
  | nil => rfl
  | cons ip rest ih =>
    simp [exabgpLoop, List.mapIdx_cons, ih, Int.add_mul, Int.add_assoc, Int.add_comm]

theorem exabgpLines_spec (c : Cfg) (t : St) (h : t.writes = true) :
    exabgpLines c t = c.ips.mapIdx (fun k ip => (specCmd c t k ip).render) := by
  simp [exabgpLines, h, exabgpLoop_eq, line, Cmd.render, lineTokens_spec]

theorem specCmd_exit_tokens (c : Cfg) (k : Nat) (ip : String) :
    (specCmd c .exit k ip).tokens =
      [selector c, "withdraw", "route", ip, "next-hop", c.nextHop.getD "self"]
        ++ optInt "path-information" (pathIdOf c) := by
  rw [← selector_spec c .exit k ip]
  simp [Cmd.tokens, specCmd, optInt, optList]

theorem mainLoop_eq (c : Cfg) (hz : c.intervalZero = false) (l : Loop) (inputs : List Inp) :
    mainLoop c l inputs = linesFrom c l inputs ++ exabgpLines c .exit := by
  fun_induction mainLoop c l inputs with
  | case1 => rfl                                                    -- exit event
  | case2 _ _ _ _ h => simp [hz] at h                               -- `--interval 0` ends the loop
  | case3 _ _ _ _ _ ih => rw [ih, linesFrom, List.append_assoc]    -- one more iteration

section
variable {c : Cfg} {l : Loop} {i : Inp} {t : St} {ln : String}

theorem mem_exabgpLines (h : ln ∈ exabgpLines c t) :
    t.writes = true ∧ ∃ k ip, c.ips[k]? = some ip ∧ ln = (specCmd c t k ip).render := by
  cases hw : t.writes
  · simp [exabgpLines, hw] at h
  · rw [exabgpLines_spec c t hw] at h
    obtain ⟨k, hk, rfl⟩ := List.mem_mapIdx.1 h
    exact ⟨rfl, k, _, List.getElem?_eq_getElem hk, rfl⟩

theorem mem_stepLines (h : ln ∈ stepLines c l i) : ∃ t, ln ∈ exabgpLines c t := by
  revert h
  fun_cases stepLines c l i
  · exact fun h => ⟨_, h⟩
  · nofun

theorem mem_mainLoop {inputs : List Inp} (h : ln ∈ mainLoop c l inputs) :
    ∃ t, ln ∈ exabgpLines c t := by
  revert h
  fun_induction mainLoop c l inputs with
  | case1 => exact fun h => ⟨.exit, h⟩                                                   -- exit event
  | case2 => exact mem_stepLines                                                         -- `--interval 0`
  | case3 _ _ _ _ _ ih => exact fun h => (List.mem_append.1 h).elim mem_stepLines ih    -- one more iteration

end

end Exa.Health
