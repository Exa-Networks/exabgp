import ExaModel.Lemmas.WireAttr
/-! Round trip of every attribute value, of one attribute TLV (both length widths) and of the TLV walk. -/
namespace Exa.Wire
open Exa

theorem decVal_encVal (p : Params) (v : AttrVal) (h : WFVal p v) : decVal p v.code (encVal p v) = .ok v := by
  cases v with
  | origin x =>
    have hx : ¬ x > 2 := Nat.not_lt.2 h
    show decVal p 1 [x] = _
    rw [decVal_origin, List.length_singleton, if_neg (not_not_intro rfl)]
    exact if_neg hx
  | asPath segs =>
    show decVal p 2 (encSegs p.asn4 segs) = _
    rw [decVal_asPath, decSegs_encSegs p.asn4 segs h _ (Nat.le_refl _)]
  | nextHop ip => exact (decVal_nextHop p _).trans (fourByteVal_be32 h)
  | med x => exact (decVal_med p _).trans (fourByteVal_be32 h)
  | localPref x => exact (decVal_localPref p _).trans (fourByteVal_be32 h)
  | atomicAggregate => exact decVal_atomicAggregate p []
  | aggregator asn ip =>
    obtain ⟨h1, h2⟩ := h
    show decVal p 7 (encAsn p.asn4 asn ++ be32 ip) = _
    rw [decVal_aggregator]
    cases ha : p.asn4 with
    | true =>
      rw [ha] at h1
      simp only [encAsn, ↓reduceIte]
      rw [List.length_append, be32_length, be32_length, if_neg (not_not_intro rfl), rd32_be32 asn h1, drop4_be32,
        rd32_be32_nil ip h2]
    | false =>
      rw [ha] at h1
      simp only [encAsn, ↓reduceIte, Bool.false_eq_true]
      rw [List.length_append, be16_length, be32_length, if_neg (not_not_intro rfl), rd16_be16 asn h1, drop2_be16,
        rd32_be32_nil ip h2]
  | communities cs =>
    show decVal p 8 (encAsns true cs) = _
    rw [decVal_communities, if_neg (by rw [encAsns_true_length]; omega), decU32s_enc cs h]
  | originatorId ip => exact (decVal_originatorId p _).trans (fourByteVal_be32 h)
  | clusterList ids =>
    show decVal p 10 (encAsns true ids) = _
    rw [decVal_clusterList, if_neg (by rw [encAsns_true_length]; omega), decU32s_enc ids h]
  | mpReach afi safi nh ns =>
    show decVal p 14 (be16 afi ++ (safi :: nh.length :: (nh ++ 0 :: encNlris safi false ns))) = _
    rw [decVal_mpReach, decMpReach_frame p afi safi nh _ (supported_bounds afi safi h.1).1, if_pos h.1,
      decNlris_encNlris afi safi (p.ap afi safi) false ns h.2.2 _ (Nat.le_refl _)]
  | mpUnreach afi safi ns =>
    show decVal p 15 (be16 afi ++ (safi :: encNlris safi true ns)) = _
    rw [decVal_mpUnreach, decMpUnreach_frame p afi safi _ (supported_bounds afi safi h.1).1, if_pos h.1,
      decNlris_encNlris afi safi (p.ap afi safi) true ns h.2 _ (Nat.le_refl _)]
  | extCommunities cs =>
    show decVal p 16 (encAsns true (flat2 cs)) = _
    rw [decVal_extCommunities, if_neg (by rw [encAsns_true_length, flat2_length]; omega), decU32s_enc _ h,
      unflat2_flat2]
  | as4Path segs =>
    show decVal p 17 (encSegs true segs) = _
    rw [decVal_as4Path, decSegs_encSegs true segs h _ (Nat.le_refl _)]
  | as4Aggregator asn ip =>
    show decVal p 18 (be32 asn ++ be32 ip) = _
    rw [decVal_as4Aggregator, List.length_append, be32_length, be32_length, if_neg (not_not_intro rfl),
      rd32_be32 asn h.1, drop4_be32, rd32_be32_nil ip h.2]
  | largeCommunities cs =>
    show decVal p 32 (encAsns true (flat3 cs)) = _
    rw [decVal_largeCommunities, if_neg (by rw [encAsns_true_length, flat3_length]; omega), decU32s_enc _ h,
      unflat3_flat3]
  | mpReachRaw afi safi nh raw =>
    show decVal p 14 (be16 afi ++ (safi :: nh.length :: (nh ++ 0 :: raw))) = _
    rw [decVal_mpReach, decMpReach_frame p afi safi nh raw h.2.1, if_neg (by rw [h.1]; exact Bool.false_ne_true)]
  | mpUnreachRaw afi safi raw =>
    show decVal p 15 (be16 afi ++ (safi :: raw)) = _
    rw [decVal_mpUnreach, decMpUnreach_frame p afi safi raw h.2.1, if_neg (by rw [h.1]; exact Bool.false_ne_true)]
  | unknown c raw => exact decVal_unknown p c raw h

theorem encAttr_append (p : Params) (a : Attr) (rest : Bytes) :
    encAttr p a ++ rest =
      a.flags.byte :: a.val.code :: (encLen a.flags.ext (encVal p a.val).length ++ (encVal p a.val ++ rest)) := by
  simp [encAttr]

theorem decAttr_cons (p : Params) (fb code : Nat) (r : Bytes) : decAttr p (fb :: code :: r) =
    match decLen (Flags.ofByte fb).ext r with
    | none => .error (3, 1)
    | some (len, body) =>
      if body.length < len then .error (3, 1)
      else match flagErr (Flags.ofByte fb) code with
        | some e => .error e
        | none =>
          match decVal p code (body.take len) with
          | .error e => .error e
          | .ok v => .ok ({ flags := Flags.ofByte fb, val := v }, body.drop len) := rfl

theorem decAttr_ok (p : Params) (bs : Bytes) (a : Attr) (rest : Bytes) (h : decAttr p bs = .ok (a, rest)) :
    ∃ fb code r len body, bs = fb :: code :: r ∧ decLen (Flags.ofByte fb).ext r = some (len, body) ∧
      len ≤ body.length ∧ flagErr (Flags.ofByte fb) code = none ∧
      decVal p code (body.take len) = .ok a.val ∧ a.flags = Flags.ofByte fb ∧ rest = body.drop len := by
  revert h
  fun_cases decAttr p bs <;> intro h <;> cases h
  next fb code r len body hd c hf v hv =>
    exact ⟨fb, code, r, len, body, rfl, hd, Nat.le_of_not_lt c, hf, hv, rfl, rfl⟩

theorem decAttr_encAttr (p : Params) (a : Attr) (h : WFAttr p a) (rest : Bytes) :
    decAttr p (encAttr p a ++ rest) = .ok (a, rest) := by
  obtain ⟨hf, hv, hl⟩ := h
  rw [encAttr_append, decAttr_cons, flags_ofByte_byte, decLen_encLen a.flags.ext _ hl]
  simp only
  have c : ¬ (encVal p a.val ++ rest).length < (encVal p a.val).length := by simp
  rw [if_neg c, hf]
  simp only
  rw [List.take_left', List.drop_left', decVal_encVal p a.val hv]
  all_goals rfl

/-- flags, type code and at least one length octet -/
theorem encAttr_length_ge3 (p : Params) (a : Attr) : 3 ≤ (encAttr p a).length := by
  rw [encAttr, List.length_cons, List.length_cons, List.length_append, encLen_length]
  split <;> omega

theorem encAttr_length_pos (p : Params) (a : Attr) : 0 < (encAttr p a).length :=
  Nat.lt_of_lt_of_le (by decide) (encAttr_length_ge3 p a)

theorem decAttrs_eq_walk (p : Params) : decAttrs p = walk (decAttr p) (3, 1) := by
  funext f bs
  fun_induction walk (decAttr p) (3, 1) f bs <;> simp only [decAttrs, *]

theorem encAttrs_eq_flatMap (p : Params) (as : List Attr) : encAttrs p as = as.flatMap (encAttr p) := by
  induction as with
  | nil => rfl
  | cons a t ih => rw [encAttrs, ih, List.flatMap_cons]

theorem encAttrs_append (p : Params) (a b : List Attr) : encAttrs p (a ++ b) = encAttrs p a ++ encAttrs p b := by
  rw [encAttrs_eq_flatMap, encAttrs_eq_flatMap, encAttrs_eq_flatMap, List.flatMap_append]

theorem decAttrs_encAttrs (p : Params) (as : List Attr) (h : ∀ a ∈ as, WFAttr p a) (fuel : Nat)
    (hf : (encAttrs p as).length ≤ fuel) : decAttrs p fuel (encAttrs p as) = .ok as := by
  rw [encAttrs_eq_flatMap] at hf ⊢
  rw [decAttrs_eq_walk]
  exact walk_enc _ as (fun a ha => ⟨List.ne_nil_of_length_pos (encAttr_length_pos p a),
    decAttr_encAttr p a (h a ha)⟩) fuel hf

end Exa.Wire
