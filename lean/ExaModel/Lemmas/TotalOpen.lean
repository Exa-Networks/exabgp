import ExaModel.Model.OpenCodec
/-! C03 for the OPEN decoder model (M-OpenCodec, a model of `Open.unpack_message` /
    `Capabilities.unpack`): every error is one of five literal (code, subcode) pairs; the capability
    walk has a counting twin whose count is linear in the bytes. -/
namespace Exa.Open
open Exa

/-- The (code, subcode) pairs the OPEN decoder model can answer with. -/
def openErrSites : List (Nat × Nat) := [(1, 2), (2, 0), (2, 1), (2, 4), (2, 5)]

/-- Every error `r` can answer with is in `S`.  The decoders are trees of conditionals: the errors of the
    tree are those of its leaves, whatever the conditions. -/
def ErrIn {α : Type} (S : Err → Prop) (r : Res α) : Prop := ∀ e, r = .error e → S e

theorem ErrIn.ok {α : Type} {S : Err → Prop} {x : α} : ErrIn S (.ok x) := fun _ h => nomatch h

theorem ErrIn.error {α : Type} {S : Err → Prop} {e : Err} (h : S e) : ErrIn S (.error e : Res α) :=
  fun _ he => Except.error.inj he ▸ h

theorem ErrIn.ite {α : Type} {S : Err → Prop} {c : Prop} [Decidable c] {a b : Res α} (ha : ErrIn S a) (hb : ErrIn S b) :
    ErrIn S (if c then a else b) := by
  split
  · exact ha
  · exact hb

theorem optList_err (o : Option (List Triple)) (k : List Triple → Cap) : ErrIn (· = malformed) (optList o k) := by
  cases o
  · exact .error rfl
  · exact .ok

local macro "oleaf" h:ident : tactic =>
  `(tactic| ((repeat' split at $h:ident) <;>
      first | (simp only [Except.error.injEq] at $h:ident; exact ($h:ident).symm) | cases $h:ident
            | exact optList_err _ _ _ $h:ident))

/-- Every refusal of a capability value is OPEN Message Error / Unspecific. -/
theorem decodeCap_err (code : Nat) (v : Bytes) : ErrIn (· = malformed) (decodeCap code v) := by
  fun_cases decodeCap code v <;> first | exact .ok | exact .error rfl | exact optList_err _ _

theorem walkCaps_err (fuel : Nat) (data : Bytes) : ErrIn (· = malformed) (walkCaps fuel data) := by
  intro e
  fun_induction walkCaps fuel data <;> intro h <;> cases h
  case case6 hd => exact decodeCap_err _ _ _ hd
  case case7 ih hw => exact ih hw
  all_goals rfl

theorem malformed_site : (malformed.code, malformed.sub) ∈ openErrSites := by decide

theorem walkParams_err (ext : Bool) (fuel : Nat) (data : Bytes) :
    ErrIn (fun e => (e.code, e.sub) ∈ openErrSites) (walkParams ext fuel data) := by
  intro e
  fun_induction walkParams ext fuel data <;> intro h <;> cases h
  case case7 hw => exact walkCaps_err _ _ e hw ▸ malformed_site
  case case8 ih hw => exact ih hw
  all_goals decide

theorem decodeOptional_err (data : Bytes) : ErrIn (fun e => (e.code, e.sub) ∈ openErrSites) (decodeOptional data) := by
  unfold decodeOptional
  exact .ite .ok (.ite
    (.ite (.error malformed_site)
      (.ite (.ite (.error malformed_site) (walkParams_err _ _ _)) (.ite (.error malformed_site) (walkParams_err _ _ _))))
    (.ite (.error malformed_site) (walkParams_err _ _ _)))

/-- Every refusal of the OPEN decoder model is one of five literal pairs. -/
theorem decodeOpen_err (body : Bytes) (e : Err) (h : decodeOpen body = .error e) : (e.code, e.sub) ∈ openErrSites := by
  revert h
  fun_cases decodeOpen body <;> intro h <;> cases h
  case case3 he => exact decodeOptional_err _ _ he
  all_goals decide

/-- `walkCaps` + the number of capability TLVs it looked at. -/
def walkCapsSteps (fuel : Nat) (data : Bytes) : Res (List Cap) × Nat :=
  match fuel with
  | 0 => (if data.isEmpty then .ok [] else .error malformed, 0)
  | fuel + 1 =>
    if data.isEmpty then (.ok [], 0) else
    if data.length < 2 then (.error malformed, 1) else
    if data.length < data.getD 1 0 + 2 then (.error malformed, 1) else
    match decodeCap (data.getD 0 0) ((data.drop 2).take (data.getD 1 0)) with
    | .error e => (.error e, 1)
    | .ok c =>
      ((match (walkCapsSteps fuel (data.drop (data.getD 1 0 + 2))).1 with
        | .error e => .error e
        | .ok r => .ok (c :: r)),
       (walkCapsSteps fuel (data.drop (data.getD 1 0 + 2))).2 + 1)

theorem walkCapsSteps_fst (fuel : Nat) (data : Bytes) : (walkCapsSteps fuel data).1 = walkCaps fuel data := by
  fun_induction walkCapsSteps fuel data <;> simp only [walkCaps, *, ↓reduceIte, Bool.false_eq_true]
  rfl

/-- **Linear iteration count of the capability walk**: a capability TLV is at least 2 bytes. -/
theorem walkCapsSteps_le (fuel : Nat) (data : Bytes) : 2 * (walkCapsSteps fuel data).2 ≤ data.length + 2 := by
  fun_induction walkCapsSteps fuel data
  case case6 ih => rw [List.length_drop] at ih; omega
  all_goals omega

end Exa.Open
