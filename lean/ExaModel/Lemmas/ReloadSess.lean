import ExaModel.Lemmas.ReloadCache
/-! What a successful reload does to ONE neighbor's RIB and session (M-Rib level): commit-time
    insertion, then `replace_reload` (reconfigure) or session reset + `replace_restart`
    (reestablish), composed with the M-Rib invariants `Good` (session up) and `Down`. -/
namespace Exa.Reload
open Exa Exa.Rib

/-- The premises on the new neighbor section under which the property is stated: adj-rib-out is
    kept, no configured route is parked by a `withdraw` watchdog, every configured route belongs
    to a family of the neighbor. -/
structure RoutesOK (n : Nbr) : Prop where
  adj : n.adjOut = true
  live : ∀ cr ∈ n.routes, cr.live = true
  inFam : ∀ cr ∈ n.routes, n.fams.contains cr.r.fam = true

theorem insertOps_eq (n : Nbr) (h : RoutesOK n) : insertOps n = n.routes.map insertOp := by
  unfold insertOps
  rw [List.filter_eq_self.2 h.inFam]

/-- The Adj-RIB-Out as `RIB.enable` leaves it when the families change: routes of families that
    are not served any more are dropped from the cache. -/
def famView (fams : List Nat) (rib : Rib) (m : Nat) : Option (Nat × Nat) :=
  match AList.lookup m rib.cache with
  | some r => if fams.contains r.fam then some (r.attr, r.nh) else none
  | none => none

theorem attach_same (s : Sess) (n : Nbr) (hf : s.rib.families = n.fams) (hok : FamOK s.rib)
    (ha : n.adjOut = true) : attach (some s) n = s := by
  have hfil : s.rib.cache.filter (fun p => n.fams.contains p.2.fam) = s.rib.cache :=
    List.filter_eq_self.2 fun p hp => hf ▸ hok p.2 (List.mem_map.2 ⟨p, hp, rfl⟩)
  simp only [attach, ha, if_true, hfil]
  rw [← hf]

theorem attach_props (s : Sess) (n : Nbr) (ha : n.adjOut = true) (hw : WFMap s.rib.cache) :
    (attach (some s) n).rib.cacheOn = s.rib.cacheOn ∧ (attach (some s) n).rib.families = n.fams ∧
    WFMap (attach (some s) n).rib.cache ∧ FamOK (attach (some s) n).rib ∧
    ∀ m, (attach (some s) n).rib.cacheView m = famView n.fams s.rib m := by
  have e : attach (some s) n = { s with rib := { s.rib with
      families := n.fams, cache := s.rib.cache.filter (fun p => n.fams.contains p.2.fam) } } := by
    simp only [attach, ha, if_true]
  rw [e]
  refine ⟨rfl, rfl, wfmap_filter _ hw, fun r hr => ?_, fun m => ?_⟩
  · obtain ⟨p, hp, rfl⟩ := List.mem_map.1 hr
    exact (List.mem_filter.1 hp).2
  · simp only [Rib.cacheView, famView]
    rw [AList.lookup_filter_val (fun r : Route => n.fams.contains r.fam) _ hw.1]
    cases AList.lookup m s.rib.cache with
    | none => rfl
    | some r => rw [Option.bind_some]; show _ = ite _ _ _; split <;> rfl

def CacheWF (rib : Rib) : Prop := WFMap rib.cache ∧ rib.cacheOn = true

theorem cacheWF_closed : RibClosed CacheWF :=
  .of_updateRib (fun s r h => ⟨updateRib_cache s r h.2 ▸ wfmap_insert h.1 r, h.2⟩)
    (fun s k f h => ⟨del_cache s k f h.2 ▸ wfmap_erase h.1 k, h.2⟩) (fun _ _ _ h => h) (fun _ _ _ h => h)

/-- `deltaView` only consults the old view where neither configuration lists anything. -/
theorem deltaView_congr (cv cv' : Nat → Option (Nat × Nat)) (prev new : List Route) (m : Nat)
    (h : lastOf new m = none → hasNlri prev m = false → cv m = cv' m) :
    deltaView cv prev new m = deltaView cv' prev new m := by
  unfold deltaView
  cases hl : lastOf new m with
  | some r => rfl
  | none => cases hp : hasNlri prev m <;> simp [h hl, hp]

theorem parsed_frame (s0 : Sess) (n : Nbr) (hc : s0.rib.cacheOn = true) :
    (s0.run (insertOps n)).1.rib.cacheOn = true ∧ (s0.run (insertOps n)).1.rib.families = s0.rib.families :=
  (frame_closed true s0.rib.families).run s0 _ (insertOps_isRibOnly n) ⟨hc, rfl⟩

theorem parsed_cacheView (s0 : Sess) (n : Nbr) (h : RoutesOK n) (hc : s0.rib.cacheOn = true) (m : Nat) :
    (s0.run (insertOps n)).1.rib.cacheView m
      = match lastOf n.plain m with
        | some r => some (r.attr, r.nh)
        | none => s0.rib.cacheView m := by
  rw [insertOps_eq n h]
  exact inserts_cacheView n.routes s0 hc h.live m

theorem parsed_famOK (s0 : Sess) (n : Nbr) (h : RoutesOK n) (hf : s0.rib.families = n.fams) (hok : FamOK s0.rib) :
    FamOK (s0.run (insertOps n)).1.rib := by
  rw [insertOps_eq n h]
  exact famOK_inserts _ _ hok fun cr hcr => hf ▸ h.inFam cr hcr

/-- `replace_reload` on a RIB whose Adj-RIB-Out is what parsing left (the queues may have moved
    on): the Adj-RIB-Out becomes `deltaView` of what it was before the parse.  The announcements come
    from the parse, `replace_reload` contributes the withdrawals. -/
theorem parsed_reload_cacheView (s0 : Sess) (n : Nbr) (h : RoutesOK n) (hc : s0.rib.cacheOn = true)
    (prev : List Route) (rib : Rib) (hcache : rib.cache = (s0.run (insertOps n)).1.rib.cache)
    (hon : rib.cacheOn = true) (m : Nat) :
    (rib.replaceReload prev n.plain).cacheView m = deltaView s0.rib.cacheView prev n.plain m := by
  have hcv : ∀ k, rib.cacheView k = (s0.run (insertOps n)).1.rib.cacheView k := fun k => by
    simp only [Rib.cacheView, hcache]
  rw [replaceReload_cacheView rib prev n.plain hon fun k q hl => by rw [hcv, parsed_cacheView s0 n h hc, hl]]
  exact deltaView_congr _ _ _ _ _ fun hl _ => by rw [hcv, parsed_cacheView s0 n h hc, hl]

/-- Pure transmission steps. -/
def isXmit : Op → Bool
  | .start => true
  | .next => true
  | _ => false

theorem xmit_isUp (op : Op) (h : isXmit op = true) : op.isUp = true := by
  cases op with
  | start | next => rfl
  | _ => cases h

theorem xmit_step (s : Sess) (op : Op) (h : isXmit op = true) :
    (s.step op).1.rib.cache = s.rib.cache ∧ (s.step op).1.rib.cacheOn = s.rib.cacheOn := by
  cases op with
  | start => rcases start_cases s with ⟨e, _⟩ | ⟨_, e⟩ <;> rw [e] <;> exact ⟨rfl, rfl⟩
  | next => rw [next_rib]; exact ⟨rfl, rfl⟩
  | _ => cases h

theorem xmit_run (s : Sess) (ops : List Op) (h : ∀ op ∈ ops, isXmit op = true) :
    (s.run ops).1.rib.cache = s.rib.cache ∧ (s.run ops).1.rib.cacheOn = s.rib.cacheOn :=
  run_preserves (Q := fun s' => s'.rib.cache = s.rib.cache ∧ s'.rib.cacheOn = s.rib.cacheOn)
    (fun s' op ho hs => ⟨(xmit_step s' op (h op ho)).1.trans hs.1, (xmit_step s' op (h op ho)).2.trans hs.2⟩)
    ⟨rfl, rfl⟩

theorem parseSess_same (s : Sess) (n : Nbr) (h : RoutesOK n) (hf : s.rib.families = n.fams) (hok : FamOK s.rib) :
    parseSess (some s) n = (s.run (insertOps n)).1 := by
  rw [parseSess, attach_same s n hf hok h.adj]

/-- Session established, same session parameters: after parsing, any transmission steps (the
    reload interrupts the peer's coroutine at an arbitrary await: typically it is waiting in
    `read_message`, past the loop top, and the rest of that iteration already sends the routes the
    parser inserted) and the `replace_reload` at the top of the next `_main` iteration, the
    convergence invariant holds against what the peer has by then, and a drain leaves the peer with
    `deltaView`. -/
theorem reload_up_core (s : Sess) (t : Table) (g : Good s t) (n : Nbr) (prev : List Route)
    (h : RoutesOK n) (hf : s.rib.families = n.fams) (hok : FamOK s.rib)
    (ops : List Op) (hx : ∀ op ∈ ops, isXmit op = true) :
    let r := (parseSess (some s) n).run ops
    let s2 := (r.1.step (.reload prev n.plain)).1
    Good s2 (applyEvs t r.2) ∧
    ∀ m, AList.lookup m (applyEvs t (r.2 ++ s2.drain.2)) = deltaView s.rib.cacheView prev n.plain m := by
  rw [parseSess_same s n h hf hok]
  intro r s2
  have g2 : Good s2 (applyEvs t r.2) :=
    good_step r.1 _ (.reload prev n.plain) rfl
      (good_run _ t ops (fun o ho => xmit_isUp o (hx o ho)) (good_ribOnly_run g (insertOps_isRibOnly n)))
  refine ⟨g2, fun m => ?_⟩
  obtain ⟨x1, x2⟩ := xmit_run (s.run (insertOps n)).1 ops hx
  rw [applyEvs_append, g2.drained m]
  exact parsed_reload_cacheView s n h g.cacheOn prev r.1.rib x1 (x2.trans (parsed_frame s n g.cacheOn).1) m

/-- Reconfigure with the session down: `replace_reload` at once, `replace_restart([], current)` at
    the next establishment. -/
theorem reload_down_core (s : Sess) (d : Down s.rib) (hi : s.inflight = none) (hw : s.inclWd = false)
    (n : Nbr) (prev : List Route) (h : RoutesOK n) (hf : s.rib.families = n.fams) (hok : FamOK s.rib) :
    let s2 : Sess := { (parseSess (some s) n) with rib := (parseSess (some s) n).rib.replaceReload prev n.plain }
    let s3 := (s2.step (.established [] n.plain)).1
    Good s3 [] ∧ ∀ m, AList.lookup m (applyEvs [] s3.drain.2) = deltaView s.rib.cacheView prev n.plain m := by
  rw [parseSess_same s n h hf hok]
  intro s2 s3
  have e : s3 = ((s.run (insertOps n ++ [.reload prev n.plain])).1.step (.established [] n.plain)).1 := by
    rw [run_append_fst]; rfl
  obtain ⟨c1, c2⟩ := parsed_frame s n d.cacheOn
  have hok2 : FamOK (s.run (insertOps n ++ [.reload prev n.plain])).1.rib := by
    rw [run_append_fst]
    refine famOK_replaceReload _ _ _ (parsed_famOK s n h hf hok) fun r hr => ?_
    obtain ⟨cr, hcr, rfl⟩ := List.mem_map.1 hr
    rw [c2, hf]; exact h.inFam cr hcr
  obtain ⟨g3, htab⟩ := reestablished d hi hw
    (forall_mem_concat (insertOps_isRibOnly n) (rfl : (Op.reload prev n.plain).isRibOnly = true)) [] n.plain hok2
  rw [e]
  refine ⟨g3, fun m => (htab m).trans ?_⟩
  rw [run_append_fst]
  exact parsed_reload_cacheView s n h d.cacheOn prev _ rfl c1 m

theorem deltaView_restart (cv : Nat → Option (Nat × Nat)) (prev new : List Route) (m : Nat) :
    (if hasNlri prev m && !hasNlri new m then none
      else match lastOf new m with
        | some r => some (r.attr, r.nh)
        | none => cv m) = deltaView cv prev new m := by
  unfold deltaView
  cases hl : lastOf new m with
  | some r => simp [lastOf_some_hasNlri hl]
  | none => simp only [(lastOf_none_iff _ _).1 hl, Bool.not_false, Bool.and_true]

/-- From any attached state: the parsed routes are in the cache; the session is reset (`_reset`),
    re-established and `replace_restart(previous, current)` runs: the new session, drained,
    leaves an EMPTY peer table at `deltaView`. -/
theorem restart_core (s0 : Sess) (hcw : CacheWF s0.rib) (hok0 : FamOK s0.rib) (n : Nbr) (prev : List Route)
    (h : RoutesOK n) (hf : s0.rib.families = n.fams) :
    let s1 := (s0.run (insertOps n)).1
    let s3 := ((s1.step .lost).1.step (.established prev n.plain)).1
    Good s3 [] ∧ ∀ m, AList.lookup m (applyEvs [] s3.drain.2) = deltaView s0.rib.cacheView prev n.plain m := by
  intro s1 s3
  have w1 : CacheWF s1.rib := cacheWF_closed.run s0 _ (insertOps_isRibOnly n) hcw
  obtain ⟨g3, htab⟩ := reestablished (s := (s1.step .lost).1) (ops := []) (down_reset s1.rib w1.1 w1.2) rfl rfl
    (fun _ ho => nomatch ho) prev n.plain (parsed_famOK s0 n h hf hok0)
  refine ⟨g3, fun m => (htab m).trans ?_⟩
  rw [← deltaView_restart, ← parsed_cacheView s0 n h hcw.2]
  rfl

/-- **Two reloads, the second while the session is down for the re-establishment the first one asked for**
    (finding F106 / F109).  From any attached state `s0`: reload 1 parses `n1` (its routes are queued), the session
    is reset; reload 2 parses `n2` (same families) and `reconfigure` runs `replace_reload(link, n2.routes)` where the
    link is what the definitions that never reached the RIB held — `old ++ n1.routes`; the next session runs
    `replace_restart([], n2.routes)`.  Drained, it leaves an EMPTY peer table at `deltaView` of the ORIGINAL cache
    against `old ++ n1.routes`: the routes of `n2`, and of everything else only what neither `old` nor `n1`
    ever configured (the API routes). -/
theorem reload_chain_down_core (s0 : Sess) (hcw : CacheWF s0.rib) (hok0 : FamOK s0.rib) (n1 n2 : Nbr) (old : List Route)
    (h1 : RoutesOK n1) (h2 : RoutesOK n2) (hf1 : s0.rib.families = n1.fams) (hf2 : n1.fams = n2.fams) :
    let s1 := ((s0.run (insertOps n1)).1.step .lost).1
    let s2 : Sess := { (parseSess (some s1) n2) with rib := (parseSess (some s1) n2).rib.replaceReload (old ++ n1.plain) n2.plain }
    let s3 := (s2.step (.established [] n2.plain)).1
    Good s3 [] ∧ ∀ m, AList.lookup m (applyEvs [] s3.drain.2) = deltaView s0.rib.cacheView (old ++ n1.plain) n2.plain m := by
  intro s1 s2 s3
  have w1 : CacheWF (s0.run (insertOps n1)).1.rib := cacheWF_closed.run s0 _ (insertOps_isRibOnly n1) hcw
  have hfam1 : s1.rib.families = n2.fams := (parsed_frame s0 n1 hcw.2).2.trans (hf1.trans hf2)
  obtain ⟨g3, htab⟩ := reload_down_core s1 (down_reset _ w1.1 w1.2) rfl rfl n2 (old ++ n1.plain) h2 hfam1
    (parsed_famOK s0 n1 h1 hf1 hok0)
  refine ⟨g3, fun m => (htab m).trans (deltaView_congr _ _ _ _ _ fun _ hp => ?_)⟩
  -- a prefix neither `old` nor `n1` lists was not touched by the first parse
  have hn1 : lastOf n1.plain m = none := by
    rw [lastOf_none_iff]
    simp only [hasNlri, List.any_append, Bool.or_eq_false_iff] at hp ⊢
    exact hp.2
  rw [show s1.rib.cacheView m = (s0.run (insertOps n1)).1.rib.cacheView m from rfl,
    parsed_cacheView s0 n1 h1 hcw.2, hn1]

/-- A peer the reload creates: fresh RIB, nothing previous, first establishment. -/
theorem new_peer_core (n : Nbr) (h : RoutesOK n) :
    let s1 := parseSess none n
    let s3 := (s1.step (.established [] n.plain)).1
    Good s3 [] ∧ ∀ m, AList.lookup m (applyEvs [] s3.drain.2) = deltaView (fun _ => none) [] n.plain m := by
  intro s1 s3
  have hp : s1 = ((Sess.init true n.fams).run (insertOps n)).1 := by simp [s1, parseSess, attach, h.adj]
  obtain ⟨g3, htab⟩ := reestablished (down_init n.fams) rfl rfl (insertOps_isRibOnly n) [] n.plain
    (parsed_famOK (Sess.init true n.fams) n h rfl fun r hr => nomatch hr)
  rw [show s3 = (((Sess.init true n.fams).run (insertOps n)).1.step (.established [] n.plain)).1 by rw [← hp]]
  refine ⟨g3, fun m => (htab m).trans ?_⟩
  rw [parsed_cacheView _ n h rfl]
  exact deltaView_restart _ [] n.plain m

end Exa.Reload
