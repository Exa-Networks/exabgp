import ExaModel.Lemmas.JsonSound
/-! Single-line / ASCII facts about `render`, and the lemmas about `text.oneline`. -/
namespace Exa.Json

theorem isNumChar_ascii (c : Nat) (h : isNumChar c = true) : 0x20 ≤ c ∧ c < 0x7F := by
  simp only [isNumChar, isDigit, Bool.or_eq_true, Bool.and_eq_true, decide_eq_true_eq] at h
  omega

mutual
theorem render_ascii : (j : J) → j.wf = true → Ascii (render j)
  | .null, _ | .bool true, _ | .bool false, _ | .arr .nil, _ | .obj .nil, _ => by
    simp [render]
  | .num lit, hw => by
    simp only [J.wf, wfNum, Bool.and_eq_true, List.all_eq_true] at hw
    exact fun x hx => isNumChar_ascii x (hw.2 x hx)
  | .str s, _ => quote_ascii s
  | .arr (.cons h t), hw => by
    simp only [J.wf, JL.wf, Bool.and_eq_true] at hw
    simp [render, render_ascii h hw.1, renderTL_ascii t hw.2]
  | .obj (.cons k v t), hw => by
    simp only [J.wf, JM.wf, Bool.and_eq_true] at hw
    simp [render, quote_ascii, render_ascii v hw.1.2,
      renderTM_ascii t hw.2]
theorem renderTL_ascii : (l : JL) → l.wf = true → Ascii (renderTL l)
  | .nil, _ => ascii_nil
  | .cons h t, hw => by
    simp only [JL.wf, Bool.and_eq_true] at hw
    simp [renderTL, render_ascii h hw.1, renderTL_ascii t hw.2]
theorem renderTM_ascii : (m : JM) → m.wf = true → Ascii (renderTM m)
  | .nil, _ => ascii_nil
  | .cons k v t, hw => by
    simp only [JM.wf, Bool.and_eq_true] at hw
    simp [renderTM, quote_ascii, render_ascii v hw.1.2,
      renderTM_ascii t hw.2]
end

theorem asciiEncodable_of_ascii {l : Str} (h : Ascii l) : asciiEncodable l = true := by
  simp only [asciiEncodable, List.all_eq_true, decide_eq_true_eq]
  intro x hx; have := h x hx; omega

theorem no_linebreak {s : List Nat} (h : ∀ x ∈ s, 0x20 ≤ x) : 0x0A ∉ s ∧ 0x0D ∉ s :=
  ⟨fun m => by have := h _ m; omega, fun m => by have := h _ m; omega⟩

theorem firstCtl_none_iff (s : List Nat) : firstCtl s = none ↔ ∀ x ∈ s, 0x20 ≤ x := by
  fun_induction firstCtl s <;> simp [*] <;> omega

open Exa.Generated.Printable in
/-- some range of the generated table covers `lo..hi` entirely -/
def covered (lo hi : Nat) : Bool := nonPrintable.any (fun r => r.1 ≤ lo && hi ≤ r.2)

open Exa.Generated.Printable in
/-- no range of the generated table touches 0x20..0x7E -/
def asciiFree : Bool := nonPrintable.all (fun r => r.2 < 0x20 || 0x7F ≤ r.1)

theorem covered_spec (lo hi c : Nat) (h : covered lo hi = true) (h1 : lo ≤ c) (h2 : c ≤ hi) : isPrintable c = false := by
  simp only [covered, List.any_eq_true, Bool.and_eq_true, decide_eq_true_eq] at h
  obtain ⟨r, hr, a, b⟩ := h
  simp only [isPrintable, Bool.not_eq_eq_eq_not, Bool.not_false, List.any_eq_true, Bool.and_eq_true, decide_eq_true_eq]
  exact ⟨r, hr, by omega, by omega⟩

theorem asciiFree_spec (c : Nat) (h : asciiFree = true) (h1 : 0x20 ≤ c) (h2 : c < 0x7F) : isPrintable c = true := by
  simp only [asciiFree, List.all_eq_true, Bool.or_eq_true, decide_eq_true_eq] at h
  simp only [isPrintable, Bool.not_eq_eq_eq_not, Bool.not_true, List.any_eq_false, Bool.and_eq_true, decide_eq_true_eq, not_and]
  intro r hr a
  have := h r hr
  omega

-- What is read off the generated table: C0 controls, DEL..NBSP (C1 controls included) and the Unicode
-- line / paragraph separators are not printable; nothing in 0x20..0x7E is excluded.
theorem table_c0 : covered 0 0x1F = true := by decide +kernel
theorem table_c1 : covered 0x7F 0xA0 = true := by decide +kernel
theorem table_seps : covered 0x2028 0x2029 = true := by decide +kernel
theorem table_ascii : asciiFree = true := by decide +kernel

theorem printable_low (c : Nat) (hc : c < 0xA1) (hp : isPrintable c = true) : 0x20 ≤ c ∧ c < 0x7F := by
  by_cases h1 : c ≤ 0x1F
  · rw [covered_spec 0 0x1F c table_c0 (by omega) h1] at hp; cases hp
  by_cases h2 : 0x7F ≤ c
  · rw [covered_spec 0x7F 0xA0 c table_c1 h2 (by omega)] at hp; cases hp
  omega

theorem printable_ascii (c : Nat) (h1 : 0x20 ≤ c) (h2 : c < 0x7F) : isPrintable c = true :=
  asciiFree_spec c table_ascii h1 h2

theorem printable_seps (c : Nat) (h : c = 0x2028 ∨ c = 0x2029) : isPrintable c = false :=
  covered_spec 0x2028 0x2029 c table_seps (by omega) (by omega)

theorem reprEsc_ascii (c : Nat) : Ascii (reprEsc c) := by
  simp [reprEsc, apply_ite Ascii, hexDigit_mod_ascii, u4_ascii]

theorem escWith_mem (pass : Nat → Bool) (s : Str) (x : Nat) (hx : x ∈ escWith pass s) :
    (pass x = true ∧ x ∈ s) ∨ (0x20 ≤ x ∧ x < 0x7F) := by
  simp only [escWith, List.mem_flatMap] at hx
  obtain ⟨c, hc, h⟩ := hx
  split at h
  · rename_i hp
    simp only [List.mem_cons, List.not_mem_nil, or_false] at h
    subst h
    rcases hp with hp | hp
    · exact Or.inl ⟨hp, hc⟩
    · right; omega
  · exact Or.inr (reprEsc_ascii c x h)

theorem escWith_ascii {pass : Nat → Bool} {s : Str} (h : ∀ c ∈ s, pass c = true → 0x20 ≤ c ∧ c < 0x7F) :
    Ascii (escWith pass s) := fun x hx =>
  (escWith_mem pass s x hx).elim (fun ⟨hp, hm⟩ => h x hm hp) id

/-! `oneline` and `onelineFixed` with printable ASCII decided before the table is consulted: the forms a concrete line
    is evaluated through. -/

theorem oneline_eq (s : Str) :
    oneline s = escWith (fun c => decide (0x20 ≤ c ∧ c < 0x7F) || isPrintable c) s := by
  refine congrArg (escWith · s) (funext fun c => ?_)
  by_cases h : 0x20 ≤ c ∧ c < 0x7F
  · simp [h, printable_ascii c h.1 h.2]
  · simp [h]

/-- the repaired function does not depend on the table beyond its two ASCII facts -/
theorem onelineFixed_eq (s : Str) : onelineFixed s = escWith (fun c => decide (0x20 ≤ c ∧ c < 0x7F)) s := by
  refine congrArg (escWith · s) (funext fun c => ?_)
  by_cases h : 0x20 ≤ c ∧ c < 0x7F
  · simp [h, printable_ascii c h.1 h.2]; omega
  · cases hp : isPrintable c
    · simp [h]
    · have : ¬ c < 0x80 := fun hlt => h (printable_low c (by omega) hp)
      simp [h, this]

theorem unOneline_raw {c : Nat} (t : Str) (hc : c ≠ 0x5C) : unOneline (c :: t) = c :: unOneline t := by
  rw [unOneline.eq_def]; simp only [hc, if_false]

theorem unOneline_t (t : Str) : unOneline (0x5C :: 0x74 :: t) = 0x09 :: unOneline t := by
  rw [unOneline.eq_def]; rfl

theorem unOneline_n (t : Str) : unOneline (0x5C :: 0x6E :: t) = 0x0A :: unOneline t := by
  rw [unOneline.eq_def]; rfl

theorem unOneline_r (t : Str) : unOneline (0x5C :: 0x72 :: t) = 0x0D :: unOneline t := by
  rw [unOneline.eq_def]; rfl

theorem unOneline_x {a b x y : Nat} (t : Str) (ha : hexVal a = some x) (hb : hexVal b = some y) :
    unOneline (0x5C :: 0x78 :: a :: b :: t) = (x * 16 + y) :: unOneline t := by
  rw [unOneline.eq_def]; simp only [ha, hb]; rfl

theorem unOneline_u {a b c d u : Nat} (t : Str) (h : hex4 a b c d = some u) :
    unOneline (0x5C :: 0x75 :: a :: b :: c :: d :: t) = u :: unOneline t := by
  rw [unOneline.eq_def]; simp only [h]; rfl

theorem unOneline_U {a b c d a' b' c' d' u v : Nat} (t : Str) (h : hex4 a b c d = some u)
    (h' : hex4 a' b' c' d' = some v) :
    unOneline (0x5C :: 0x55 :: a :: b :: c :: d :: a' :: b' :: c' :: d' :: t) = (u * 0x10000 + v) :: unOneline t := by
  rw [unOneline.eq_def]; simp only [h, h']; rfl

theorem unOneline_reprEsc (c : Nat) (hc : c < 0x100000000) (tail : Str) :
    unOneline (reprEsc c ++ tail) = c :: unOneline tail := by
  fun_cases reprEsc c
  · subst c; exact unOneline_t tail
  · subst c; exact unOneline_n tail
  · subst c; exact unOneline_r tail
  · exact (unOneline_x tail (hexVal_nibble _) (hexVal_nibble _)).trans (by congr 1; omega)
  · exact unOneline_u tail (hex4_u4 c ‹_›)
  · -- the eight digits are those of `c / 0x10000` and of `c`, four each
    have hi := hex4_digits (c / 0x10000)
    simp only [Nat.div_div_eq_div_mul, Nat.reduceMul] at hi
    exact (unOneline_U tail hi (hex4_digits c)).trans (by congr 1; omega)

theorem unOneline_escWith (pass : Nat → Bool) (s : Str) (hs : ∀ c ∈ s, c ≠ 0x5C ∧ c < 0x110000) :
    unOneline (escWith pass s) = s := by
  induction s with
  | nil => rfl
  | cons c s ih =>
    have hc := hs c (by simp)
    have ih' := ih (fun x hx => hs x (by simp [hx]))
    simp only [escWith, List.flatMap_cons] at ih' ⊢
    split
    · rw [List.cons_append, List.nil_append, unOneline_raw _ hc.1, ih']
    · rw [unOneline_reprEsc c (by omega), ih']

theorem escWith_injective (pass : Nat → Bool) {s t : Str} (hs : ∀ c ∈ s, c ≠ 0x5C ∧ c < 0x110000)
    (ht : ∀ c ∈ t, c ≠ 0x5C ∧ c < 0x110000) (h : escWith pass s = escWith pass t) : s = t := by
  rw [← unOneline_escWith pass s hs, h, unOneline_escWith pass t ht]

end Exa.Json
