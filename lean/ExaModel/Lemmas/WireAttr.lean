import ExaModel.Model.WireAttr
import ExaModel.Lemmas.WireNlri
/-! The attribute codecs of M-Wire piece by piece: flags octet, AS-number and segment lists, length
    field (both widths), the MP attributes on a framed value, and the equations of `decVal`, one per
    type code. The value round trip, one TLV and the TLV walk are in `WireTlv.lean`. -/
namespace Exa.Wire
open Exa

theorem drop4_be32 (n : Nat) (rest : Bytes) : (be32 n ++ rest).drop 4 = rest := rfl
theorem drop2_be16 (n : Nat) (rest : Bytes) : (be16 n ++ rest).drop 2 = rest := rfl

theorem rd32_be32_nil (n : Nat) (h : n < 4294967296) : rd32 (be32 n) = n := by
  have := rd32_be32 n h []; rwa [List.append_nil] at this

theorem flags_ofByte_byte (f : Flags) : Flags.ofByte f.byte = f := by
  obtain ⟨o, t, p, e⟩ := f
  cases o <;> cases t <;> cases p <;> cases e <;> rfl

theorem flags_byte_lt (f : Flags) : f.byte < 256 := by
  obtain ⟨o, t, p, e⟩ := f
  cases o <;> cases t <;> cases p <;> cases e <;> decide

theorem unflat2_flat2 (l : List (Nat × Nat)) : unflat2 (flat2 l) = l := by
  induction l with
  | nil => rfl
  | cons x t ih => obtain ⟨a, b⟩ := x; simp [flat2, unflat2, ih]

theorem unflat3_flat3 (l : List (Nat × Nat × Nat)) : unflat3 (flat3 l) = l := by
  induction l with
  | nil => rfl
  | cons x t ih => obtain ⟨a, b, c⟩ := x; simp [flat3, unflat3, ih]

theorem flat2_length (l : List (Nat × Nat)) : (flat2 l).length = 2 * l.length := by
  induction l with
  | nil => rfl
  | cons x t ih => obtain ⟨a, b⟩ := x; simp [flat2, ih]; omega

theorem flat3_length (l : List (Nat × Nat × Nat)) : (flat3 l).length = 3 * l.length := by
  induction l with
  | nil => rfl
  | cons x t ih => obtain ⟨a, b, c⟩ := x; simp [flat3, ih]; omega

theorem ok_of_ite {α : Type} {c : Prop} [Decidable c] {e : Err} {y : Except Err α} {x : α}
    (h : (if c then (Except.error e : Except Err α) else y) = .ok x) : ¬ c ∧ y = .ok x := by
  by_cases hc : c
  · rw [if_pos hc] at h; cases h
  · rw [if_neg hc] at h; exact ⟨hc, h⟩

theorem encAsn_length (w4 : Bool) (a : Nat) : (encAsn w4 a).length = if w4 then 4 else 2 := by
  cases w4 <;> rfl

theorem rd_encAsn (w4 : Bool) (a : Nat) (h : a < (if w4 then 4294967296 else 65536)) (rest : Bytes) :
    (if w4 then rd32 (encAsn w4 a ++ rest) else rd16 (encAsn w4 a ++ rest)) = a := by
  cases w4 with
  | true => exact rd32_be32 a h rest
  | false => exact rd16_be16 a h rest

theorem encAsns_length (w4 : Bool) (l : List Nat) :
    (encAsns w4 l).length = (if w4 then 4 else 2) * l.length := by
  induction l with
  | nil => rfl
  | cons a t ih => rw [encAsns, List.length_append, encAsn_length, ih, List.length_cons, Nat.mul_succ, Nat.add_comm]

theorem encAsns_true_length (l : List Nat) : (encAsns true l).length = 4 * l.length := encAsns_length true l

theorem decAsns_succ (w4 : Bool) (n : Nat) (bs : Bytes) : decAsns w4 (n + 1) bs =
    if bs.length < (if w4 then 4 else 2) then none
    else match decAsns w4 n (bs.drop (if w4 then 4 else 2)) with
      | some (l, r) => some ((if w4 then rd32 bs else rd16 bs) :: l, r)
      | none => none := rfl

theorem decAsns_encAsns (w4 : Bool) (l : List Nat) (h : ∀ a ∈ l, a < (if w4 then 4294967296 else 65536))
    (rest : Bytes) : decAsns w4 l.length (encAsns w4 l ++ rest) = some (l, rest) := by
  induction l with
  | nil => rfl
  | cons a t ih =>
    rw [List.length_cons, decAsns_succ, encAsns, List.append_assoc,
      if_neg (by rw [List.length_append, encAsn_length]; omega), List.drop_left' (encAsn_length w4 a),
      ih (fun x hx => h x (List.mem_cons_of_mem _ hx)), rd_encAsn w4 a (h a List.mem_cons_self)]

theorem decU32s_enc (l : List Nat) (h : U32s l) : decU32s (encAsns true l) = l := by
  unfold decU32s
  have hl : (encAsns true l).length / 4 = l.length := by
    rw [encAsns_length]; simp
  have := decAsns_encAsns true l (by simpa [U32s] using h) []
  rw [List.append_nil] at this
  rw [hl, this]

theorem decSegs_succ (w4 : Bool) (f t c : Nat) (r : Bytes) : decSegs w4 (f + 1) (t :: c :: r) =
    if t = 0 ∨ t > 4 ∨ c = 0 then none
    else match decAsns w4 c r with
      | none => none
      | some (as, rest) =>
        match decSegs w4 f rest with
        | none => none
        | some ss => some ((t, as) :: ss) := rfl

theorem encSegs_cons (w4 : Bool) (s : Seg) (t : List Seg) :
    encSegs w4 (s :: t) = s.1 :: s.2.length :: (encAsns w4 s.2 ++ encSegs w4 t) := rfl

theorem decSegs_encSegs (w4 : Bool) (segs : List Seg) (h : ∀ s ∈ segs, WFSeg w4 s) (fuel : Nat)
    (hf : (encSegs w4 segs).length ≤ fuel) : decSegs w4 fuel (encSegs w4 segs) = some segs := by
  induction segs generalizing fuel with
  | nil => cases fuel <;> rfl
  | cons s t ih =>
    obtain ⟨h1, h2, h3, h4, h5⟩ := h s (by simp)
    rw [encSegs_cons] at hf ⊢
    cases fuel with
    | zero => simp at hf
    | succ f =>
      rw [decSegs_succ]
      have c : ¬ (s.1 = 0 ∨ s.1 > 4 ∨ s.2.length = 0) := by omega
      rw [if_neg c, decAsns_encAsns w4 s.2 h5]
      simp only
      rw [ih (fun x hx => h x (List.mem_cons_of_mem _ hx)) f (by simp at hf; omega)]

theorem encLen_length (ext : Bool) (n : Nat) : (encLen ext n).length = if ext then 2 else 1 := by
  cases ext <;> rfl

theorem decLen_encLen (ext : Bool) (n : Nat) (h : n < (if ext then 65536 else 256)) (rest : Bytes) :
    decLen ext (encLen ext n ++ rest) = some (n, rest) := by
  cases ext with
  | true =>
    show (if (be16 n ++ rest).length < 2 then none else some (rd16 (be16 n ++ rest), (be16 n ++ rest).drop 2)) = _
    have c : ¬ (be16 n ++ rest).length < 2 := by simp
    rw [if_neg c, rd16_be16 n (by simpa using h), drop2_be16]
  | false => rfl

theorem rd16_be16_cons (n : Nat) (h : n < 65536) (rest : Bytes) : rd16 (be16 n ++ rest) = n :=
  rd16_be16 n h rest

theorem supported_bounds (afi safi : Nat) (h : supported afi safi = true) : afi < 65536 ∧ safi < 256 := by
  unfold supported at h
  simp at h
  omega

theorem decMpReach_frame (p : Params) (afi safi : Nat) (nh tail : Bytes) (ha : afi < 65536) :
    decMpReach p (be16 afi ++ (safi :: nh.length :: (nh ++ 0 :: tail))) =
      if supported afi safi then
        match decNlris afi safi (p.ap afi safi) false tail.length tail with
        | .error e => .error e
        | .ok ns => .ok (.mpReach afi safi nh ns)
      else .ok (.mpReachRaw afi safi nh tail) := by
  generalize hv : be16 afi ++ (safi :: nh.length :: (nh ++ 0 :: tail)) = v
  have e3 : v.getD 3 0 = nh.length := by rw [← hv]; rfl
  have e2 : v.getD 2 0 = safi := by rw [← hv]; rfl
  have e1 : rd16 v = afi := by rw [← hv]; exact rd16_be16 afi ha _
  have el : v.length = 5 + nh.length + tail.length := by
    rw [← hv]; simp only [List.length_append, List.length_cons, be16_length]; omega
  have d4 : v.drop 4 = nh ++ 0 :: tail := by rw [← hv]; rfl
  have d5 : v.drop (5 + nh.length) = tail := by
    rw [show 5 + nh.length = 4 + (nh.length + 1) by omega, ← List.drop_drop, d4,
      show nh ++ 0 :: tail = (nh ++ [0]) ++ tail by simp]
    exact List.drop_left' (by simp)
  unfold decMpReach
  rw [if_neg (by omega), e3, if_neg (by omega)]
  simp only [e1, e2, d4, d5, List.take_left']
  split
  · cases decNlris afi safi (p.ap afi safi) false tail.length tail <;> rfl
  · rfl

theorem decMpUnreach_frame (p : Params) (afi safi : Nat) (tail : Bytes) (ha : afi < 65536) :
    decMpUnreach p (be16 afi ++ (safi :: tail)) =
      if supported afi safi then
        match decNlris afi safi (p.ap afi safi) true tail.length tail with
        | .error e => .error e
        | .ok ns => .ok (.mpUnreach afi safi ns)
      else .ok (.mpUnreachRaw afi safi tail) := by
  unfold decMpUnreach
  rw [if_neg (by simp only [List.length_append, List.length_cons, be16_length]; omega)]
  simp only [rd16_be16 afi ha, show (be16 afi ++ (safi :: tail)).getD 2 0 = safi from rfl,
    show (be16 afi ++ (safi :: tail)).drop 3 = tail from rfl]
  split
  · cases decNlris afi safi (p.ap afi safi) true tail.length tail <;> rfl
  · rfl

theorem decVal_origin (p : Params) (v : Bytes) : decVal p 1 v =
    if v.length ≠ 1 then .error (3, 5) else if v.getD 0 0 > 2 then .error (3, 6) else .ok (.origin (v.getD 0 0)) := by
  unfold decVal; rfl
theorem decVal_asPath (p : Params) (v : Bytes) : decVal p 2 v =
    match decSegs p.asn4 v.length v with | some s => .ok (.asPath s) | none => .error (3, 11) := by
  unfold decVal; rfl
theorem decVal_nextHop (p : Params) (v : Bytes) : decVal p 3 v =
    if v.length ≠ 4 then .error (3, 5) else .ok (.nextHop (rd32 v)) := by
  unfold decVal; rfl
theorem decVal_med (p : Params) (v : Bytes) : decVal p 4 v =
    if v.length ≠ 4 then .error (3, 5) else .ok (.med (rd32 v)) := by
  unfold decVal; rfl
theorem decVal_localPref (p : Params) (v : Bytes) : decVal p 5 v =
    if v.length ≠ 4 then .error (3, 5) else .ok (.localPref (rd32 v)) := by
  unfold decVal; rfl
theorem decVal_atomicAggregate (p : Params) (v : Bytes) : decVal p 6 v =
    if v.length ≠ 0 then .error (3, 5) else .ok .atomicAggregate := by
  unfold decVal; rfl
theorem decVal_aggregator (p : Params) (v : Bytes) : decVal p 7 v =
    if p.asn4 then (if v.length ≠ 8 then .error (3, 5) else .ok (.aggregator (rd32 v) (rd32 (v.drop 4))))
    else (if v.length ≠ 6 then .error (3, 5) else .ok (.aggregator (rd16 v) (rd32 (v.drop 2)))) := by
  unfold decVal; rfl
theorem decVal_communities (p : Params) (v : Bytes) : decVal p 8 v =
    if v.length % 4 ≠ 0 then .error (3, 5) else .ok (.communities (decU32s v)) := by
  unfold decVal; rfl
theorem decVal_originatorId (p : Params) (v : Bytes) : decVal p 9 v =
    if v.length ≠ 4 then .error (3, 5) else .ok (.originatorId (rd32 v)) := by
  unfold decVal; rfl
theorem decVal_clusterList (p : Params) (v : Bytes) : decVal p 10 v =
    if v.length % 4 ≠ 0 then .error (3, 5) else .ok (.clusterList (decU32s v)) := by
  unfold decVal; rfl
theorem decVal_mpReach (p : Params) (v : Bytes) : decVal p 14 v = decMpReach p v := by
  unfold decVal; rfl
theorem decVal_mpUnreach (p : Params) (v : Bytes) : decVal p 15 v = decMpUnreach p v := by
  unfold decVal; rfl
theorem decVal_extCommunities (p : Params) (v : Bytes) : decVal p 16 v =
    if v.length % 8 ≠ 0 then .error (3, 5) else .ok (.extCommunities (unflat2 (decU32s v))) := by
  unfold decVal; rfl
theorem decVal_as4Path (p : Params) (v : Bytes) : decVal p 17 v =
    match decSegs true v.length v with | some s => .ok (.as4Path s) | none => .error (3, 11) := by
  unfold decVal; rfl
theorem decVal_as4Aggregator (p : Params) (v : Bytes) : decVal p 18 v =
    if v.length ≠ 8 then .error (3, 5) else .ok (.as4Aggregator (rd32 v) (rd32 (v.drop 4))) := by
  unfold decVal; rfl
theorem decVal_largeCommunities (p : Params) (v : Bytes) : decVal p 32 v =
    if v.length % 12 ≠ 0 then .error (3, 5) else .ok (.largeCommunities (unflat3 (decU32s v))) := by
  unfold decVal; rfl

/-- The branch of `decVal` for a 4-byte value (NEXT_HOP, MULTI_EXIT_DISC, LOCAL_PREF, ORIGINATOR_ID) on `be32 x`. -/
theorem fourByteVal_be32 {C : Nat → AttrVal} {x : Nat} (h : x < 4294967296) :
    (if (be32 x).length ≠ 4 then (Except.error (3, 5) : Except Err AttrVal) else .ok (C (rd32 (be32 x)))) = .ok (C x) := by
  rw [be32_length, if_neg (not_not_intro rfl), rd32_be32_nil x h]

theorem mem_knownCodes (c : Nat) : c ∈ knownCodes ↔
    c = 1 ∨ c = 2 ∨ c = 3 ∨ c = 4 ∨ c = 5 ∨ c = 6 ∨ c = 7 ∨ c = 8 ∨ c = 9 ∨ c = 10 ∨ c = 14 ∨ c = 15 ∨
      c = 16 ∨ c = 17 ∨ c = 18 ∨ c = 32 := by
  simp only [knownCodes, List.mem_cons, List.not_mem_nil, or_false]

theorem decVal_unknown (p : Params) (c : Nat) (v : Bytes) (h : c ∉ knownCodes) :
    decVal p c v = .ok (.unknown c v) := by
  simp only [mem_knownCodes, not_or] at h
  simp only [decVal, h, if_false]

end Exa.Wire
