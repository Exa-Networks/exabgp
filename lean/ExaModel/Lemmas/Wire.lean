import ExaModel.Model.Wire
import ExaModel.Lemmas.WireTlv
/-! The UPDATE frame of M-Wire: what `decodeRaw` does on `len ++ W ++ len ++ A ++ N`, and conversely
    that every accepted byte string has that shape. Then what the report and the semantic checks read off
    an attribute list: membership in `mpAnnounces` / `mpWithdraws`, `hasCode` and `dupCode` by type codes,
    and finders that meet no attribute of their code. -/
namespace Exa.Wire
open Exa

instance instDecEqExcept {ε α : Type} [DecidableEq ε] [DecidableEq α] : DecidableEq (Except ε α) := fun a b =>
  match a, b with
  | .ok x, .ok y => if h : x = y then isTrue (by rw [h]) else isFalse (by intro e; cases e; exact h rfl)
  | .error x, .error y => if h : x = y then isTrue (by rw [h]) else isFalse (by intro e; cases e; exact h rfl)
  | .ok _, .error _ => isFalse (by intro e; cases e)
  | .error _, .ok _ => isFalse (by intro e; cases e)

/-- Where the three fields of `len ++ W ++ len ++ A ++ N` stand. -/
theorem frame_layout {W A N v : Bytes} (hW : W.length < 65536) (hA : A.length < 65536)
    (hv : be16 W.length ++ (W ++ (be16 A.length ++ (A ++ N))) = v) :
    rd16 v = W.length ∧ rd16 (v.drop (2 + W.length)) = A.length ∧
    v.length = 4 + W.length + A.length + N.length ∧ (v.drop 2).take W.length = W ∧
    (v.drop (4 + W.length)).take A.length = A ∧ v.drop (4 + W.length + A.length) = N := by
  have d2 : v.drop 2 = W ++ (be16 A.length ++ (A ++ N)) := hv ▸ rfl
  have dW : v.drop (2 + W.length) = be16 A.length ++ (A ++ N) := by
    rw [← List.drop_drop, d2]; exact List.drop_left' rfl
  have d4 : v.drop (4 + W.length) = A ++ N := by
    rw [show 4 + W.length = 2 + W.length + 2 by omega, ← List.drop_drop, dW]; rfl
  refine ⟨hv ▸ rd16_be16 _ hW _, dW ▸ rd16_be16 _ hA _, ?_, d2 ▸ List.take_left' rfl, d4 ▸ List.take_left' rfl,
    ?_⟩
  · rw [← hv]; simp only [List.length_append, be16_length]; omega
  · rw [← List.drop_drop, d4]; exact List.drop_left' rfl

theorem decodeRaw_frame (p : Params) (W A N : Bytes) (hW : W.length < 65536) (hA : A.length < 65536) :
    decodeRaw p (be16 W.length ++ (W ++ (be16 A.length ++ (A ++ N)))) =
      match decNlris 1 1 (p.ap 1 1) true W.length W with
      | .error e => .error e
      | .ok w =>
        match decAttrs p A.length A with
        | .error e => .error e
        | .ok as =>
          match decNlris 1 1 (p.ap 1 1) false N.length N with
          | .error e => .error e
          | .ok n => .ok { withdrawn := w, attrs := as, nlri := n } := by
  generalize hv : be16 W.length ++ (W ++ (be16 A.length ++ (A ++ N))) = v
  obtain ⟨eW, eA, el, tW, tA, dN⟩ := frame_layout hW hA hv
  unfold decodeRaw
  rw [eW, eA, el, if_neg (by omega), if_neg (by omega), if_neg (by omega), tW, tA, dN]
  rfl

theorem decodeRaw_encodeUpdate (p : Params) (u : UpdateSem)
    (hw : ∀ n ∈ u.withdrawn, WFNlri 1 1 (p.ap 1 1) true n) (ha : ∀ a ∈ u.attrs, WFAttr p a)
    (hn : ∀ n ∈ u.nlri, WFNlri 1 1 (p.ap 1 1) false n)
    (hW : (encNlris 1 true u.withdrawn).length < 65536) (hA : (encAttrs p u.attrs).length < 65536) :
    decodeRaw p (encodeUpdate p u) = .ok u := by
  unfold encodeUpdate
  rw [decodeRaw_frame p _ _ _ hW hA,
    decNlris_encNlris 1 1 (p.ap 1 1) true u.withdrawn hw _ (Nat.le_refl _),
    decAttrs_encAttrs p u.attrs ha _ (Nat.le_refl _),
    decNlris_encNlris 1 1 (p.ap 1 1) false u.nlri hn _ (Nat.le_refl _)]

theorem be16_rd16_take (bs : Bytes) (h : WFBytes bs) (hl : 2 ≤ bs.length) : be16 (rd16 bs) = bs.take 2 := by
  match bs, hl with
  | a :: b :: t, _ => exact be16_rd16 a b (h a (by simp)) (h b (by simp))

theorem decodeRaw_ok (p : Params) (bs : Bytes) (u : UpdateSem) (h : decodeRaw p bs = .ok u) :
    4 + rd16 bs + rd16 (bs.drop (2 + rd16 bs)) ≤ bs.length ∧
    decNlris 1 1 (p.ap 1 1) true (rd16 bs) ((bs.drop 2).take (rd16 bs)) = .ok u.withdrawn ∧
    decAttrs p (rd16 (bs.drop (2 + rd16 bs)))
      ((bs.drop (4 + rd16 bs)).take (rd16 (bs.drop (2 + rd16 bs)))) = .ok u.attrs ∧
    decNlris 1 1 (p.ap 1 1) false (bs.drop (4 + rd16 bs + rd16 (bs.drop (2 + rd16 bs)))).length
      (bs.drop (4 + rd16 bs + rd16 (bs.drop (2 + rd16 bs)))) = .ok u.nlri := by
  revert h
  fun_cases decodeRaw p bs <;> intro h <;> cases h
  next _ _ c3 w hw as ha n hn => exact ⟨Nat.le_of_not_lt c3, hw, ha, hn⟩

theorem frame_cut (bs : Bytes) (w a : Nat) :
    bs = bs.take 2 ++ ((bs.drop 2).take w ++ ((bs.drop (2 + w)).take 2 ++
      ((bs.drop (4 + w)).take a ++ bs.drop (4 + w + a)))) := by
  have s1 : bs.drop (4 + w) = (bs.drop (2 + w)).drop 2 := by rw [List.drop_drop]; congr 1; omega
  have s2 : bs.drop (4 + w + a) = (bs.drop (4 + w)).drop a := by rw [List.drop_drop]
  have s3 : bs.drop (2 + w) = (bs.drop 2).drop w := by rw [List.drop_drop]
  rw [s2, List.take_append_drop, s1, List.take_append_drop, s3, List.take_append_drop, List.take_append_drop]

theorem decodeRaw_split (p : Params) (bs : Bytes) (hwf : WFBytes bs) (u : UpdateSem)
    (h : decodeRaw p bs = .ok u) :
    ∃ W A N, bs = be16 W.length ++ (W ++ (be16 A.length ++ (A ++ N))) ∧
      decNlris 1 1 (p.ap 1 1) true W.length W = .ok u.withdrawn ∧
      decAttrs p A.length A = .ok u.attrs ∧
      decNlris 1 1 (p.ap 1 1) false N.length N = .ok u.nlri := by
  obtain ⟨hl, hw, ha, hn⟩ := decodeRaw_ok p bs u h
  have hW2 := be16_rd16_take bs hwf (by omega)
  have hA2 := be16_rd16_take _ (wfBytes_drop (2 + rd16 bs) hwf) (by rw [List.length_drop]; omega)
  generalize rd16 (bs.drop (2 + rd16 bs)) = a at *
  generalize rd16 bs = w at *
  have lW : ((bs.drop 2).take w).length = w := by rw [List.length_take, List.length_drop]; omega
  have lA : ((bs.drop (4 + w)).take a).length = a := by rw [List.length_take, List.length_drop]; omega
  refine ⟨(bs.drop 2).take w, (bs.drop (4 + w)).take a, bs.drop (4 + w + a), ?_, ?_, ?_, hn⟩
  · rw [lW, lA, hW2, hA2]; exact frame_cut bs w a
  · rw [lW]; exact hw
  · rw [lA]; exact ha

theorem decodeUpdate_encodeUpdate (p : Params) (u : UpdateSem) (h : WFUpdate p u) :
    decodeUpdate p (encodeUpdate p u) = .ok u := by
  obtain ⟨hw, ha, hn, hW, hA, hsz, hsem⟩ := h
  unfold decodeUpdate
  rw [if_neg (Nat.not_lt.2 hsz), decodeRaw_encodeUpdate p u hw ha hn hW hA]
  simp only [hsem]

theorem decodeUpdate_ok (p : Params) (bs : Bytes) (u : UpdateSem) (h : decodeUpdate p bs = .ok u) :
    bs.length + 19 ≤ p.msgSize ∧ decodeRaw p bs = .ok u ∧ semErr p u = none := by
  revert h
  fun_cases decodeUpdate p bs <;> intro h <;> cases h
  next c hr hs => exact ⟨Nat.le_of_not_lt c, hr, hs⟩

theorem mem_mpAnnounces (as : List Attr) (x : Nat × Nat × Bytes × Nlri) :
    x ∈ mpAnnounces as ↔
      ∃ a ∈ as, ∃ afi safi nh ns, a.val = .mpReach afi safi nh ns ∧ ∃ n ∈ ns, x = (afi, safi, nhAddr safi nh, n) := by
  induction as with
  | nil => simp [mpAnnounces]
  | cons a t ih =>
    rw [mpAnnounces, List.mem_append, ih]
    simp only [List.mem_cons, exists_eq_or_imp]
    apply or_congr_left
    constructor
    · intro h
      split at h
      · rename_i afi safi nh ns hv
        obtain ⟨n, hn, rfl⟩ := List.mem_map.1 h
        exact ⟨afi, safi, nh, ns, hv, n, hn, rfl⟩
      · exact absurd h List.not_mem_nil
    · rintro ⟨afi, safi, nh, ns, hv, n, hn, rfl⟩
      rw [hv]
      exact List.mem_map.2 ⟨n, hn, rfl⟩

theorem mem_mpWithdraws (as : List Attr) (x : Nat × Nat × Nlri) :
    x ∈ mpWithdraws as ↔
      ∃ a ∈ as, ∃ afi safi ns, a.val = .mpUnreach afi safi ns ∧ ∃ n ∈ ns, x = (afi, safi, eraseLabels n) := by
  induction as with
  | nil => simp [mpWithdraws]
  | cons a t ih =>
    rw [mpWithdraws, List.mem_append, ih]
    simp only [List.mem_cons, exists_eq_or_imp]
    apply or_congr_left
    constructor
    · intro h
      split at h
      · rename_i afi safi ns hv
        obtain ⟨n, hn, rfl⟩ := List.mem_map.1 h
        exact ⟨afi, safi, ns, hv, n, hn, rfl⟩
      · exact absurd h List.not_mem_nil
    · rintro ⟨afi, safi, ns, hv, n, hn, rfl⟩
      rw [hv]
      exact List.mem_map.2 ⟨n, hn, rfl⟩

theorem hasCode_iff (as : List Attr) (c : Nat) : hasCode as c = true ↔ c ∈ as.map Attr.code := by
  simp only [hasCode, List.any_eq_true, List.mem_map, beq_iff_eq]

theorem hasCode_true (as : List Attr) (c : Nat) (h : c ∈ as.map Attr.code) : hasCode as c = true :=
  (hasCode_iff as c).2 h

theorem hasCode_false (as : List Attr) (c : Nat) (h : c ∉ as.map Attr.code) : hasCode as c = false :=
  Bool.eq_false_iff.2 (mt (hasCode_iff as c).1 h)

theorem dupCode_false (as : List Attr) (h : (as.map Attr.code).Nodup) : dupCode as = false := by
  induction as with
  | nil => rfl
  | cons a t ih =>
    rw [List.map_cons, List.nodup_cons] at h
    rw [dupCode, ih h.2, Bool.or_false]
    exact hasCode_false t a.code h.1

theorem findAs4Path_none {as : List Attr} (h : ∀ a ∈ as, a.val.code ≠ 17) : findAs4Path as = none := by
  fun_induction findAs4Path as
  case case1 => rfl
  case case2 a t s hv => exact absurd (by rw [hv]; rfl) (h a (List.mem_cons_self ..))
  case case3 ih => exact ih fun x hx => h x (List.mem_cons_of_mem _ hx)

theorem findAgg4_none {as : List Attr} (h : ∀ a ∈ as, a.val.code ≠ 18) : findAgg4 as = none := by
  fun_induction findAgg4 as
  case case1 => rfl
  case case2 a t x y hv => exact absurd (by rw [hv]; rfl) (h a (List.mem_cons_self ..))
  case case3 ih => exact ih fun x hx => h x (List.mem_cons_of_mem _ hx)

end Exa.Wire
