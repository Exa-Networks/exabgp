import ExaModel.Lemmas.SessionTrace
/-!
# M-Session — what a trace accepted by the checker satisfies

Pure list facts about `chkAll`; together with `run_acc` they give the trace theorems of C05 / C10.
-/
namespace Exa.Session

theorem after_dead_mono (g : G) (o : Out) : ∀ i ∈ g.dead, i ∈ (g.after o).dead := by
  intro i hi
  cases o with
  | send c k st => cases hk : notNotif k <;> simp [G.after, afterSend, hk, hi]
  | gotNotification c => exact List.mem_cons_of_mem _ hi
  | _ => exact hi

theorem chkAll_dead_mono {strict : Bool} : ∀ {os : List Out} {g g' : G}, chkAll strict g os = some g' →
    ∀ i ∈ g.dead, i ∈ g'.dead
  | [], g, g', h => by cases h; exact fun _ hi => hi
  | o :: os, g, g', h => fun i hi => chkAll_dead_mono (chkAll_cons.1 h).2 i (after_dead_mono g o i hi)

theorem accepted_fsm_rfc {strict : Bool} : ∀ {os : List Out} {g g' : G}, chkAll strict g os = some g' →
    ∀ a b, Out.fsm a b ∈ os → (a, b) ∈ rfcTable
  | [], _, _, _ => by simp
  | o :: os, g, g', h => by
    obtain ⟨hok, h2⟩ := chkAll_cons.1 h
    intro a b hm
    rcases List.mem_cons.1 hm with rfl | hm
    · exact hok.2
    · exact accepted_fsm_rfc h2 a b hm

theorem accepted_data_established : ∀ {os : List Out} {g g' : G}, chkAll true g os = some g' →
    ∀ c k st, Out.send c k st ∈ os → isData k = true → st = .established
  | [], _, _, _ => by simp
  | o :: os, g, g', h => by
    obtain ⟨hok, h2⟩ := chkAll_cons.1 h
    intro c k st hm hk
    rcases List.mem_cons.1 hm with rfl | hm
    · exact hok.2.2 rfl hk
    · exact accepted_data_established h2 c k st hm hk

/-- the FSM state a trace leads to. -/
def fsmAfter (f : Fsm) : List Out → Fsm
  | [] => f
  | .fsm _ b :: os => fsmAfter b os
  | _ :: os => fsmAfter f os

theorem after_fsm (g : G) (o : Out) : (g.after o).fsm = fsmAfter g.fsm [o] := by
  cases o <;> rfl

theorem fsmAfter_cons (f : Fsm) (o : Out) (os : List Out) : fsmAfter f (o :: os) = fsmAfter (fsmAfter f [o]) os := by
  cases o <;> rfl

theorem chkAll_fsm {strict : Bool} : ∀ {os : List Out} {g g' : G}, chkAll strict g os = some g' →
    g'.fsm = fsmAfter g.fsm os
  | [], g, g', h => by cases h; rfl
  | o :: os, g, g', h => by rw [chkAll_fsm (chkAll_cons.1 h).2, after_fsm, ← fsmAfter_cons]

theorem accepted_labels {strict : Bool} {g g' : G} {xs ys : List Out} {o : Out}
    (h : chkAll strict g (xs ++ o :: ys) = some g') :
    (∀ a b, o = .fsm a b → a = fsmAfter g.fsm xs) ∧ (∀ c k st, o = .send c k st → st = fsmAfter g.fsm xs) := by
  obtain ⟨g1, h1, h2⟩ := chkAll_split.1 h
  have hok := (chkAll_cons.1 h2).1
  rw [← chkAll_fsm h1]
  constructor
  · rintro a b rfl; exact hok.1
  · rintro c k st rfl; exact hok.1

theorem accepted_dead {strict : Bool} {g g' : G} {xs ys : List Out} {o : Out} {c : Nat}
    (h : chkAll strict g (xs ++ o :: ys) = some g')
    (ho : (∃ code sub st, o = .send c (.notification code sub) st) ∨ o = .gotNotification c) :
    ∀ k st, Out.send c k st ∉ ys := by
  obtain ⟨g1, _, h2⟩ := chkAll_split.1 h
  have h4 := (chkAll_cons.1 h2).2
  have hdead : c ∈ (g1.after o).dead := by
    rcases ho with ⟨code, sub, st, rfl⟩ | rfl <;> exact List.mem_cons_self
  intro k st hm
  obtain ⟨zs, ws, rfl⟩ := List.append_of_mem hm
  obtain ⟨g3, h5, h6⟩ := chkAll_split.1 h4
  exact (chkAll_cons.1 h6).1.2.1 (chkAll_dead_mono h5 c hdead)

theorem up_until_down {strict : Bool} : ∀ {ys : List Out} {ga gb : G}, chkAll strict ga ys = some gb →
    ga.up = true → gb.up = false → Out.down ∈ ys
  | [], ga, gb, e, h1, h2 => by cases e; rw [h1] at h2; cases h2
  | o :: os, ga, gb, e, h1, h2 => by
    obtain ⟨hok, e2⟩ := chkAll_cons.1 e
    cases o with
    | down => exact List.mem_cons_self
    | up => rw [show ga.up = false from hok] at h1; cases h1
    | _ => exact List.mem_cons_of_mem _ (up_until_down e2 h1 h2)

theorem accepted_up_down {strict : Bool} {g g' : G} {xs ys zs : List Out}
    (h : chkAll strict g (xs ++ Out.up :: ys ++ Out.up :: zs) = some g') : Out.down ∈ ys := by
  rw [List.append_assoc] at h
  obtain ⟨g1, _, h2⟩ := chkAll_split.1 h
  rw [List.cons_append] at h2
  obtain ⟨g3, h5, h6⟩ := chkAll_split.1 (chkAll_cons.1 h2).2
  exact up_until_down h5 rfl (chkAll_cons.1 h6).1

theorem after_closed (g : G) (o : Out) : ∀ i ∈ (g.after o).closed, i ∈ g.closed ∨ o = .close i := by
  intro i hi
  cases o with
  | close c =>
    rcases List.mem_cons.1 hi with rfl | hi
    · exact Or.inr rfl
    · exact Or.inl hi
  | _ => exact Or.inl hi

theorem chkAll_closed {strict : Bool} : ∀ {os : List Out} {g g' : G}, chkAll strict g os = some g' →
    ∀ i ∈ g'.closed, i ∈ g.closed ∨ Out.close i ∈ os
  | [], g, g', h => by cases h; exact fun _ hi => Or.inl hi
  | o :: os, g, g', h => by
    intro i hi
    rcases chkAll_closed (chkAll_cons.1 h).2 i hi with h3 | h3
    · rcases after_closed g o i h3 with h4 | h4
      · exact Or.inl h4
      · exact Or.inr (by rw [h4]; exact List.mem_cons_self)
    · exact Or.inr (List.mem_cons_of_mem _ h3)

theorem run_transports_accounted (cfg : Cfg) (rib : Bool) (evs : List Event) :
    ∀ i, 0 < i → i < (run (init cfg rib) evs).1.nextId →
      (∃ k, (run (init cfg rib) evs).1.conn = some k ∧ k.id = i) ∨ Out.close i ∈ (run (init cfg rib) evs).2 := by
  obtain ⟨g, h, r⟩ := run_acc (strict := true) evs _ g0 (rel_init cfg rib) (inv_init cfg rib)
  intro i h0 hi
  rcases r.accounted i h0 hi with hcur | hcl
  · exact Or.inl hcur
  · rcases chkAll_closed h i hcl with h1 | h1
    · simp [g0] at h1
    · exact Or.inr h1

theorem run_accepted (cfg : Cfg) (rib : Bool) (evs : List Event) :
    ∃ g, chkAll true g0 (run (init cfg rib) evs).2 = some g := by
  obtain ⟨g, h, _⟩ := run_acc (strict := true) evs _ g0 (rel_init cfg rib) (inv_init cfg rib)
  exact ⟨g, h⟩

end Exa.Session
