/-
  M-Attr7606 vs M-Wire, loop level: the TLV walk of the model of ExaBGP on a reference-encoded attribute block,
  the decision for each well-formed attribute (keep; unrecognised: keep as generic if transitive, else drop),
  and the state the loop ends in.
-/
import ExaModel.Lemmas.Attr7606AgreeVal
import ExaModel.Lemmas.Wire

namespace Exa.Attr7606
open Exa Exa.Wire
open Exa.Generated.AttrTable (Row)

/-- A reference attribute as the loop of the model sees it on the wire. -/
def tlvOf (p : Params) (a : Attr) : Tlv :=
  { flag := a.flags.byte, code := a.val.code, dlen := (encVal p a.val).length, val := encVal p a.val }

theorem walk_encAttrs (p : Params) (as : List Attr) (h : ∀ a ∈ as, WFAttr p a) (fuel : Nat)
    (hf : (encAttrs p as).length ≤ fuel) : walk fuel (encAttrs p as) = (as.map (tlvOf p), false) := by
  induction as generalizing fuel with
  | nil => cases fuel <;> rfl
  | cons a t ih =>
    obtain ⟨_, _, hl⟩ := h a (by simp)
    simp only [encAttrs] at hf ⊢
    cases fuel with
    | zero => have := encAttr_length_pos p a; simp only [List.length_append] at hf; omega
    | succ f =>
      rw [encAttr_append, walk, flags_ofByte_byte, decLen_encLen a.flags.ext _ hl]
      simp only
      rw [List.take_left' rfl, List.drop_left' rfl]
      have hlen : (encAttrs p t).length ≤ f := by
        have := encAttr_length_pos p a
        simp only [List.length_append] at hf
        omega
      rw [ih (fun x hx => h x (List.mem_cons_of_mem _ hx)) f hlen]
      simp [tlvOf]

theorem tlvOf_not_overrun (p : Params) (a : Attr) : (tlvOf p a).overrun = false := by
  simp [Tlv.overrun, tlvOf]

theorem rowOf_spec {tb : List Row} (htb : TableOk tb) {c : Nat} (hc : c ∈ specCodes) :
    ∃ row, rowOf tb c = some row ∧ row ∈ tb ∧ row.id = c := by
  obtain ⟨row, hrow⟩ := Option.isSome_iff_exists.1 (htb.2 c hc)
  exact ⟨row, hrow, rowOf_some hrow⟩

theorem optionalCode_spec {tb : List Row} (htb : TableOk tb) {c : Nat} (hc : c ∈ specCodes) {o t : Bool}
    (hfs : flagSpecX c = some (o, t)) : optionalCode tb c = o := by
  obtain ⟨row, _, hm, hid⟩ := rowOf_spec htb hc
  unfold optionalCode
  cases o with
  | true =>
    apply List.any_eq_true.2
    refine ⟨row, hm, ?_⟩
    have := rowOk_flag (htb.1 row hm) (hid ▸ hfs)
    cases t <;> simp [hid, this, b2n]
  | false =>
    apply List.any_eq_false.2
    intro r hr
    by_cases hrid : r.id = c
    · have := rowOk_flag (htb.1 r hr) (hrid ▸ hfs)
      cases t <;> simp [hrid, this, b2n]
    · simp [hrid]

/-- What the loop compares with the registered FLAG, for an octet built from flag bits: Extended Length gone,
    Partial gone when the code is an optional one. -/
theorem flags_masked (f : Flags) (hp : f.part = true → f.opt = true) :
    noExt (if f.opt then noPart (maskLow f.byte) else maskLow f.byte) = b2n f.opt 128 + b2n f.trans 64 := by
  obtain ⟨o, t, p, e⟩ := f
  cases o <;> cases t <;> cases p <;> cases e <;> first | rfl | exact absurd (hp rfl) (by decide)

theorem registered_spec {tb : List Row} (htb : TableOk tb) {t : Tlv} (hc : t.code ∈ specCodes) {o tt : Bool}
    (hfs : flagSpecX t.code = some (o, tt)) (f : Flags) (hfb : t.flag = f.byte) (ho : f.opt = o) (ht : f.trans = tt)
    (hp : f.part = true → o = true ∧ tt = true) : registered tb t.code (effFlag tb t) = true := by
  obtain ⟨row, _, hm, hid⟩ := rowOf_spec htb hc
  refine List.any_eq_true.2 ⟨row, hm, ?_⟩
  rw [effFlag, optionalCode_spec htb hc hfs, hfb, ← ho, flags_masked f fun h => ho ▸ (hp h).1, ho, ht,
    rowOk_flag (htb.1 row hm) (hid ▸ hfs), hid]
  simp

theorem optionalCode_none {tb : List Row} {c : Nat} (h : rowOf tb c = none) : optionalCode tb c = false := by
  apply List.any_eq_false.2
  intro r hr
  have := List.find?_eq_none.1 h r hr
  simp at this
  simp [this]

theorem decide1_unknown {fx : Fix} {tb : List Row} {xp : XP} {present : List Nat} (t : Tlv) (f : Flags)
    (hfb : t.flag = f.byte) (hrow : rowOf tb t.code = none) (hov : t.overrun = false)
    (hp : present.contains t.code = false) :
    decide1 fx tb xp present t = (if f.trans then .keepGeneric else .drop) ∧ effFlag tb t = maskLow f.byte := by
  have he : effFlag tb t = maskLow f.byte := by simp [effFlag, optionalCode_none hrow, hfb]
  have htr : (f.byte / 64 % 2 == 1) = f.trans := congrArg Flags.trans (flags_ofByte_byte f)
  rw [decide1_unregistered hov hrow, hp, he, maskLow_div64, htr]
  exact ⟨rfl, rfl⟩

/-- Zero-length AS_PATH, ATOMIC_AGGREGATE, AS4_PATH are accepted by the table (VALID_ZERO). -/
def TableZero (tb : List Row) : Prop := ∀ r ∈ tb, (r.id = 2 ∨ r.id = 6 ∨ r.id = 17) → r.validZero = true
instance (tb : List Row) : Decidable (TableZero tb) := by unfold TableZero; exact inferInstance

/-- Side conditions on one attribute of a well-formed UPDATE under which the model of ExaBGP takes it as the
    reference does: `NonEmptyLists`; an unrecognised type code is one ExaBGP has no class for either;
    `ValAccepts` for the MP attributes. -/
def ExaAccepts (tb : List Row) (xp : XP) (a : Attr) : Prop :=
  NonEmptyLists a.val ∧
  (match a.val with
   | .unknown c _ => rowOf tb c = none
   | v => ValAccepts xp v)

theorem ExaAccepts.valAccepts {tb : List Row} {xp : XP} {a : Attr} (h : ExaAccepts tb xp a)
    (hk : ∀ c raw, a.val ≠ .unknown c raw) : ValAccepts xp a.val := by
  have h2 := h.2
  split at h2
  · next hv => exact absurd hv (hk _ _)
  · exact h2

/-- What the loop adds to the collection for a reference attribute. -/
def keptOfAttr (p : Params) (a : Attr) : Option Kept :=
  match a.val with
  | .unknown c raw =>
    if a.flags.trans then
      some { code := c, flag := noExt (withPart (maskLow a.flags.byte)), val := raw, merged := false }
    else none
  | _ => some (keptOf (tlvOf p a))

theorem keptOfAttr_known (p : Params) (a : Attr) (h : ∀ c raw, a.val ≠ .unknown c raw) :
    keptOfAttr p a = some (keptOf (tlvOf p a)) := by
  unfold keptOfAttr
  split
  · next hv => exact absurd hv (h _ _)
  · rfl

theorem keptOfAttr_code (p : Params) (a : Attr) (k : Kept) (h : keptOfAttr p a = some k) : k.code = a.val.code := by
  revert h
  fun_cases keptOfAttr p a <;> intro h <;> cases h
  · rename_i hv _; rw [hv]; rfl
  · rfl

theorem code_known_of_accepts {xp : XP} {v : AttrVal} (h : ValAccepts xp v) : v.code ∈ knownCodes := by
  cases v with
  | mpReachRaw _ _ _ _ | mpUnreachRaw _ _ _ | unknown _ _ => exact absurd h id
  | _ => exact List.mem_of_elem_eq_true rfl

theorem step_enc {fx : Fix} {tb : List Row} {xp : XP} (htb : TableOk tb) (hz : TableZero tb) (a : Attr)
    (hwf : WFAttr xp.p a) (hacc : ExaAccepts tb xp a) (st : LoopSt)
    (hp : (st.kept.map (·.code)).contains a.val.code = false) :
    applyDec tb (tlvOf xp.p a) st (decide1 fx tb xp (st.kept.map (·.code)) (tlvOf xp.p a)) =
      .ok { st with kept := st.kept ++ (keptOfAttr xp.p a).toList } := by
  obtain ⟨hne, h2⟩ := hacc
  split at h2
  · -- no class on either side: kept as a generic attribute if transitive, else dropped
    next c raw hval =>
    obtain ⟨hd, he⟩ := decide1_unknown (fx := fx) (xp := xp) (present := st.kept.map (·.code)) (tlvOf xp.p a) a.flags
      rfl (show rowOf tb (tlvOf xp.p a).code = none by rw [← h2, tlvOf, hval]; rfl) (tlvOf_not_overrun _ _) hp
    rw [hd]
    cases ht : a.flags.trans
    · simp [applyDec, keptOfAttr, hval, ht]
    · simp only [if_true, applyDec, he]
      simp [keptOfAttr, hval, ht, keptOf, tlvOf, AttrVal.code, encVal]
  · -- a class on both sides: the flags are the registered ones, the length is not a refused zero, the value
    -- decoder accepts
    next hnu =>
    obtain ⟨hf, hv, _⟩ := hwf
    obtain ⟨hc, h25, hsome⟩ :=
      (by decide : ∀ c ∈ knownCodes, c ∈ specCodes ∧ c ≠ 25 ∧ (flagSpec c).isSome = true) _ (code_known_of_accepts h2)
    obtain ⟨⟨o, t⟩, hfs⟩ := Option.isSome_iff_exists.1 hsome
    have hfx : flagSpecX a.val.code = some (o, t) := by rw [flagSpecX, if_neg h25, hfs]
    simp only [flagErr, hfs] at hf
    have hfacts : a.flags.opt = o ∧ a.flags.trans = t ∧ (a.flags.part = true → o = true ∧ t = true) :=
      Decidable.by_contra fun hh => by rw [if_neg hh] at hf; cases hf
    obtain ⟨row, hrow, hm, hid⟩ := rowOf_spec htb hc
    have hzero : ((tlvOf xp.p a).dlen == 0 && !row.validZero) = false := by
      by_cases h3 : a.val.code = 2 ∨ a.val.code = 6 ∨ a.val.code = 17
      · simp [hz row hm (hid ▸ h3)]
      · simp [tlvOf, encVal_ne_nil xp.p a.val (by omega) hne fun c raw h => hnu c raw h]
    rw [decide1_row (tlvOf_not_overrun _ _) hrow, show (st.kept.map (·.code)).contains (tlvOf xp.p a).code = false from hp,
      registered_spec htb (t := tlvOf xp.p a) hc hfx a.flags rfl hfacts.1 hfacts.2.1 hfacts.2.2, hzero,
      show valOutcome fx xp (tlvOf xp.p a).code (tlvOf xp.p a).val = .ok from valOutcome_enc fx xp a.val hv h2,
      keptOfAttr_known xp.p a fun c raw h => hnu c raw h]
    rfl

theorem code_ne_of_hasCode_false {as : List Attr} {c : Nat} (h : hasCode as c = false) : ∀ a ∈ as, a.val.code ≠ c :=
  fun a ha hc => Bool.eq_false_iff.1 h ((hasCode_iff as c).2 (List.mem_map.2 ⟨a, ha, hc⟩))

/-- The loop of the model on a reference-encoded block of well-formed, pairwise different attributes: every
    attribute is kept with the bytes it was sent with, in wire order — except unrecognised optional
    non-transitive ones, which are left out — and the UPDATE is neither marked treat-as-withdraw nor discard. -/
theorem loop_enc {fx : Fix} {tb : List Row} {xp : XP} (htb : TableOk tb) (hz : TableZero tb) :
    ∀ (as : List Attr), (∀ a ∈ as, WFAttr xp.p a) → (∀ a ∈ as, ExaAccepts tb xp a) → dupCode as = false →
    ∀ (st : LoopSt), (∀ a ∈ as, (st.kept.map (·.code)).contains a.val.code = false) →
    loop fx tb xp (as.map (tlvOf xp.p)) st = .ok { st with kept := st.kept ++ as.filterMap (keptOfAttr xp.p) }
  | [], _, _, _, st, _ => by simp [loop]
  | a :: t, hwf, hacc, hnd, st, hfresh => by
    simp only [dupCode, Bool.or_eq_false_iff] at hnd
    obtain ⟨hnc, hnd'⟩ := hnd
    simp only [List.map_cons, loop]
    rw [step_enc htb hz a (hwf a (by simp)) (hacc a (by simp)) st (hfresh a (by simp))]
    simp only
    have hfresh' : ∀ b ∈ t, ((st.kept ++ (keptOfAttr xp.p a).toList).map (·.code)).contains b.val.code = false := by
      intro b hb
      rw [List.map_append, List.contains_append, hfresh b (List.mem_cons_of_mem _ hb), Bool.false_or, Bool.eq_false_iff]
      intro hc
      obtain ⟨k, hk, hkc⟩ := List.mem_map.1 (List.contains_iff_mem.1 hc)
      exact code_ne_of_hasCode_false hnc b hb (hkc.symm.trans (keptOfAttr_code xp.p a k (Option.mem_toList.1 hk)))
    rw [loop_enc htb hz t (fun x hx => hwf x (List.mem_cons_of_mem _ hx)) (fun x hx => hacc x (List.mem_cons_of_mem _ hx))
      hnd' _ hfresh']
    cases hka : keptOfAttr xp.p a <;> simp [hka]

end Exa.Attr7606
