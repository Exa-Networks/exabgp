import ExaModel.Model.Json
/-! Lemmas about `json.dumps`-style escaping against the RFC 8259 string lexer. -/
namespace Exa.Json

def Ascii (l : Str) : Prop := ∀ x ∈ l, 0x20 ≤ x ∧ x < 0x7F

@[simp] theorem ascii_nil : Ascii [] := by intro x hx; cases hx

@[simp] theorem ascii_cons_iff {c : Nat} {t : Str} : Ascii (c :: t) ↔ (0x20 ≤ c ∧ c < 0x7F) ∧ Ascii t := by
  simp only [Ascii, List.forall_mem_cons]

@[simp] theorem ascii_append_iff {a b : Str} : Ascii (a ++ b) ↔ Ascii a ∧ Ascii b :=
  ⟨fun h => ⟨fun x hx => h x (List.mem_append_left _ hx), fun x hx => h x (List.mem_append_right _ hx)⟩,
    fun h x hx => (List.mem_append.1 hx).elim (h.1 x) (h.2 x)⟩

theorem hexDigit_range (n : Nat) (h : n < 16) :
    (0x30 ≤ hexDigit n ∧ hexDigit n ≤ 0x39) ∨ (0x61 ≤ hexDigit n ∧ hexDigit n ≤ 0x66) := by
  fun_cases hexDigit n <;> omega

theorem hexDigit_ne (n : Nat) (h : n < 16) : hexDigit n ≠ 0x5C := by
  have := hexDigit_range n h; omega

theorem hexDigit_mod_ascii (n : Nat) : 0x20 ≤ hexDigit (n % 16) ∧ hexDigit (n % 16) < 0x7F := by
  have := hexDigit_range (n % 16) (Nat.mod_lt _ (by decide)); omega

theorem hexVal_hexDigit (n : Nat) (h : n < 16) : hexVal (hexDigit n) = some n := by
  fun_cases hexDigit n
  · rw [hexVal, if_pos (by omega), Nat.add_sub_cancel_left]
  · rw [hexVal, if_neg (by omega), if_pos (by omega), Nat.add_sub_cancel_left]

theorem hexVal_nibble (n : Nat) : hexVal (hexDigit (n % 16)) = some (n % 16) :=
  hexVal_hexDigit _ (Nat.mod_lt _ (by decide))

theorem hex4_digits (n : Nat) :
    hex4 (hexDigit (n / 4096 % 16)) (hexDigit (n / 256 % 16)) (hexDigit (n / 16 % 16)) (hexDigit (n % 16)) =
      some (n % 0x10000) := by
  simp only [hex4, hexVal_nibble]; congr 1
  -- peel one digit at a time off `n % 16^4`; with the digits as atoms the rest is linear
  rw [show (0x10000 : Nat) = 16 * (16 * (16 * 16)) from rfl, Nat.mod_mul, Nat.mod_mul, Nat.mod_mul]
  simp only [Nat.div_div_eq_div_mul, Nat.reduceMul]
  generalize n / 4096 % 16 = a
  generalize n / 256 % 16 = b
  generalize n / 16 % 16 = c
  generalize n % 16 = d
  omega

theorem hex4_u4 (n : Nat) (h : n < 0x10000) :
    hex4 (hexDigit (n / 4096 % 16)) (hexDigit (n / 256 % 16)) (hexDigit (n / 16 % 16)) (hexDigit (n % 16)) = some n := by
  rw [hex4_digits, Nat.mod_eq_of_lt h]

theorem u4_ascii (n : Nat) : Ascii (u4 n) := by
  simp [u4, hexDigit_mod_ascii]

theorem lexUnits_quote (t : List Nat) : lexUnits (0x22 :: t) = some ([], t) := by
  rw [lexUnits.eq_def]; rfl

theorem lexUnits_esc {e u : Nat} (t : List Nat) (he : e ≠ 0x75) (h : simpleEsc e = some u) :
    lexUnits (0x5C :: e :: t) = consUnit u (lexUnits t) := by
  rw [lexUnits.eq_def]; simp only [he, h, if_false]; rfl

theorem lexUnits_u {a b c d u : Nat} (t : List Nat) (h : hex4 a b c d = some u) :
    lexUnits (0x5C :: 0x75 :: a :: b :: c :: d :: t) = consUnit u (lexUnits t) := by
  rw [lexUnits.eq_def]; simp only [h]; rfl

theorem lexUnits_raw {c : Nat} (t : List Nat) (h1 : c ≠ 0x22) (h2 : c ≠ 0x5C) (h3 : 0x20 ≤ c)
    (h4 : isSurr c = false) (h5 : c < 0x110000) : lexUnits (c :: t) = consUnit c (lexUnits t) := by
  rw [lexUnits.eq_def]
  simp only [h1, h2, h4, if_false, Nat.not_lt.2 h3, Nat.not_le.2 h5, or_self, Bool.false_eq_true]

theorem lexUnits_u4 (n : Nat) (h : n < 0x10000) (tail : List Nat) :
    lexUnits (u4 n ++ tail) = consUnit n (lexUnits tail) :=
  lexUnits_u tail (hex4_u4 n h)

theorem escChar_ascii (c : Nat) : Ascii (escChar c) := by
  fun_cases escChar c <;> simp [u4_ascii, *]

theorem escBody_ascii (s : Str) : Ascii (escBody s) := by
  intro x hx
  obtain ⟨c, _, h⟩ := List.mem_flatMap.1 hx
  exact escChar_ascii c x h

theorem quote_ascii (s : Str) : Ascii (quote s) := by
  simp [quote, escBody_ascii]

/-- the code units `json.dumps` writes for one code point -/
def unitsOf (c : Nat) : Str :=
  if c < 0x10000 then [c] else [0xD800 + (c - 0x10000) / 0x400 % 0x400, 0xDC00 + (c - 0x10000) % 0x400]

theorem unitsOf_ne_nil (c : Nat) : unitsOf c ≠ [] := by fun_cases unitsOf c <;> simp

theorem lexUnits_escChar (c : Nat) (hc : c < 0x110000) {tail us r} (ht : lexUnits tail = some (us, r)) :
    lexUnits (escChar c ++ tail) = some (unitsOf c ++ us, r) := by
  fun_cases escChar c
  case case8 =>  -- printable ASCII, as is
    rw [unitsOf, if_pos (by omega)]
    exact (lexUnits_raw tail ‹_› ‹_› (by omega) (by simp [isSurr]; omega) hc).trans (by rw [ht]; rfl)
  case case9 =>  -- one `\uXXXX`
    rw [unitsOf, if_pos ‹_›, lexUnits_u4 c ‹_›, ht]; rfl
  case case10 =>  -- a UTF-16 pair
    rw [unitsOf, if_neg ‹_›, List.append_assoc, lexUnits_u4 _ (by omega), lexUnits_u4 _ (by omega), ht]; rfl
  -- the seven two-character escapes: `simpleEsc` reads the letter back as the code point
  all_goals subst c; exact (lexUnits_esc tail (by decide) rfl).trans (by rw [ht]; rfl)

theorem lexUnits_escBody (s : Str) (hs : ∀ c ∈ s, c < 0x110000) (rest : List Nat) :
    lexUnits (escBody s ++ 0x22 :: rest) = some (s.flatMap unitsOf, rest) := by
  induction s with
  | nil => exact lexUnits_quote rest
  | cons c s ih =>
    simp only [List.forall_mem_cons] at hs
    simp only [escBody, List.flatMap_cons, List.append_assoc]
    exact lexUnits_escChar c hs.1 (ih hs.2)

theorem combine_pair {u v : Nat} (t : Str) (hu : isHigh u = true) (hv : isLow v = true) :
    combine (u :: v :: t) = (0x10000 + (u - 0xD800) * 0x400 + (v - 0xDC00)) :: combine t := by
  rw [combine, if_pos ⟨hu, hv⟩]

theorem combine_cons_of_not_pair (c : Nat) (U : Str)
    (h : ∀ v, U.head? = some v → ¬ (isHigh c = true ∧ isLow v = true)) : combine (c :: U) = c :: combine U := by
  cases U with
  | nil => rfl
  | cons v U' => rw [combine, if_neg (h v rfl)]

theorem noSurrPair_tail (c : Nat) (s : Str) (h : noSurrPair (c :: s) = true) : noSurrPair s = true := by
  cases s with
  | nil => rfl
  | cons c' s' => simp only [noSurrPair, Bool.and_eq_true] at h; exact h.2

/-- the first unit written for `s` is its first code point or a high surrogate, so it pairs with a
    preceding `c` only if `s` itself begins with a low surrogate -/
theorem head_units_not_low (s : Str) (c : Nat) (hn : noSurrPair (c :: s) = true) :
    ∀ v, (s.flatMap unitsOf).head? = some v → ¬ (isHigh c = true ∧ isLow v = true) := by
  intro v hv ⟨hh, hl⟩
  cases s with
  | nil => cases hv
  | cons c' s' =>
    rw [List.flatMap_cons, unitsOf] at hv
    split at hv <;> simp only [List.cons_append, List.head?_cons, Option.some.injEq] at hv <;> subst hv
    · simp [noSurrPair, hh, hl] at hn
    · simp only [isLow, Bool.and_eq_true, decide_eq_true_eq] at hl
      omega

/-- a UTF-16 pair holds the quotient and the remainder of `d = c - 0x10000` by 0x400 -/
theorem pair_join (d : Nat) (h : d < 0x100000) :
    (0xD800 + d / 0x400 % 0x400 - 0xD800) * 0x400 + (0xDC00 + d % 0x400 - 0xDC00) = d := by
  rw [Nat.add_sub_cancel_left, Nat.add_sub_cancel_left, Nat.mod_eq_of_lt (by omega), Nat.div_add_mod']

theorem combine_units (s : Str) (hs : ∀ c ∈ s, c < 0x110000) (hn : noSurrPair s = true) :
    combine (s.flatMap unitsOf) = s := by
  induction s with
  | nil => rfl
  | cons c s ih =>
    simp only [List.forall_mem_cons] at hs
    have ih' := ih hs.2 (noSurrPair_tail c s hn)
    rw [List.flatMap_cons, unitsOf]
    split
    · rw [List.cons_append, List.nil_append, combine_cons_of_not_pair c _ (head_units_not_low s c hn), ih']
    · rw [List.cons_append, List.cons_append, List.nil_append,
        combine_pair _ (by simp [isHigh]; omega) (by simp [isLow]; omega), ih']
      exact congrArg (· :: s) (by rw [Nat.add_assoc, pair_join _ (by omega)]; omega)

theorem wfStr_iff (s : Str) : wfStr s = true ↔ (∀ c ∈ s, c < 0x110000) ∧ noSurrPair s = true := by
  simp [wfStr, List.all_eq_true]

/-- **The string token ends exactly at the closing quote the writer put**, whatever follows, and
    holds exactly the string that was escaped. -/
theorem lexStr_escBody (s : Str) (hs : wfStr s = true) (rest : List Nat) :
    lexStr (escBody s ++ 0x22 :: rest) = some (s, rest) := by
  have ⟨h1, h2⟩ := (wfStr_iff s).1 hs
  simp only [lexStr, lexUnits_escBody s h1 rest, combine_units s h1 h2]

end Exa.Json
