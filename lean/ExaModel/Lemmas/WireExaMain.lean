import ExaModel.Lemmas.WireExaMeets
/-!
  M-Wire-Exa: the NLRI / MP_REACH_NLRI pieces as reference encodings, and the two shapes of UPDATE
  `encodeExa` produces (route in the NLRI field / route in MP_REACH_NLRI) decode under M-Wire to a message
  that `Meets` the request.
-/
namespace Exa.WireExa
open Exa Exa.Wire
open Exa.Generated.ExaEncTable

theorem packNlri_eq (p : SessParams) (r : RouteReq)
    (hw : WFNlri r.afi r.safi (apSends p r) false (wantNlri p r)) :
    packNlri p r = encNlri r.safi false (wantNlri p r) := by
  obtain ⟨_, _, h0, _⟩ := hw
  unfold packNlri encNlri wantNlri
  simp only [packLabels_eq]
  have hl : labelField r.safi false r.labels = encStack r.labels := by
    unfold labelField
    by_cases hh : hasLabel r.safi = true
    · simp [hh]
    · have hh' : hasLabel r.safi = false := by simpa using hh
      have : r.labels = [] := h0 hh'
      simp [hh', this, encStack]
  rw [hl]
  cases hap : apSends p r with
  | false => simp [encPathId]
  | true =>
    cases hpi : r.pathId with
    | none => simp [encPathId, noPath, be32]
    | some i => simp [encPathId]

theorem encNlris_single (safi : Nat) (wd : Bool) (n : Nlri) : encNlris safi wd [n] = encNlri safi wd n := by
  simp [encNlris]

/-- The MP_REACH_NLRI attribute ExaBGP builds for the route. -/
def mpAttr (p : SessParams) (r : RouteReq) (nh : Bytes) : Attr :=
  mk (paramsOf p) true false (.mpReach r.afi r.safi (mpNextHop p r nh) [wantNlri p r])

theorem mpPayload_eq (p : SessParams) (r : RouteReq) (nh : Bytes)
    (hw : WFNlri r.afi r.safi (apSends p r) false (wantNlri p r)) :
    mpPayload p r nh = encVal (paramsOf p) (.mpReach r.afi r.safi (mpNextHop p r nh) [wantNlri p r]) := by
  unfold mpPayload
  simp only [encVal, encNlris_single, packNlri_eq p r hw]

theorem mpReach_eq (p : SessParams) (r : RouteReq) (nh : Bytes)
    (hw : WFNlri r.afi r.safi (apSends p r) false (wantNlri p r)) :
    mpReach p r nh = encAttr (paramsOf p) (mpAttr p r nh) := by
  unfold mpReach mpHeader mpAttr mk
  rw [mpPayload_eq p r nh hw]
  by_cases hl : (encVal (paramsOf p) (.mpReach r.afi r.safi (mpNextHop p r nh) [wantNlri p r])).length > 255 <;>
    simp [hl, encAttr, exaFlags, Flags.byte, b2n, encLen, mpFlag, mpReachCode, AttrVal.code]

theorem rdSize_eq (afi safi : Nat) (ha : afi = 1 ∨ afi = 2) (hsf : safi = 1 ∨ safi = 2 ∨ safi = 4 ∨ safi = 128) :
    rdSize afi safi = if safi == 128 then 8 else 0 := by
  rcases ha with ha | ha <;> rcases hsf with h | h | h | h <;> subst ha <;> subst h <;> decide

/-- The next hop field: a zero RD for a VPN family, the address, and behind it the link-local address when the
    session has one and the next hop of an IPv6 route is not itself link-local. -/
theorem mpNextHop_eq (p : SessParams) (r : RouteReq) (nh : Bytes)
    (ha : r.afi = 1 ∨ r.afi = 2) (hsf : r.safi = 1 ∨ r.safi = 2 ∨ r.safi = 4 ∨ r.safi = 128) :
    ∃ x, mpNextHop p r nh = List.replicate (if r.safi == 128 then 8 else 0) 0 ++ (nh ++ x) ∧
      (x = [] ∨ (r.afi = 2 ∧ isLinkLocal nh = false ∧ p.linkLocal = some x)) := by
  unfold mpNextHop
  rw [rdSize_eq r.afi r.safi ha hsf]
  by_cases h2 : (r.afi != 2) = true
  · rw [if_pos h2]; exact ⟨[], by rw [List.append_nil], .inl rfl⟩
  rw [if_neg h2]
  cases hl : p.linkLocal with
  | none => exact ⟨[], by rw [List.append_nil], .inl rfl⟩
  | some ll =>
    dsimp only
    cases hi : isLinkLocal nh
    · rw [if_neg Bool.false_ne_true]; exact ⟨ll, rfl, .inr ⟨by simpa using h2, rfl, rfl⟩⟩
    · rw [if_pos rfl]; exact ⟨[], by rw [List.append_nil], .inl rfl⟩

theorem mpNextHop_len (p : SessParams) (r : RouteReq) (nh : Bytes) (hs : WFSess p)
    (ha : r.afi = 1 ∨ r.afi = 2) (hsf : r.safi = 1 ∨ r.safi = 2 ∨ r.safi = 4 ∨ r.safi = 128)
    (hn : nh.length = 4 ∨ nh.length = 16) : (mpNextHop p r nh).length < 256 := by
  obtain ⟨x, e, hx⟩ := mpNextHop_eq p r nh ha hsf
  have hb : (if (r.safi == 128) = true then 8 else 0) ≤ 8 := by split <;> omega
  have hxl : x.length ≤ 16 := by
    rcases hx with rfl | ⟨_, _, hl⟩
    · exact Nat.zero_le _
    · exact Nat.le_of_eq (hs.linkLocal_len hl)
  rw [e, List.length_append, List.length_replicate, List.length_append]; omega

theorem supported_of (afi safi : Nat) (ha : afi = 1 ∨ afi = 2) (hsf : safi = 1 ∨ safi = 2 ∨ safi = 4 ∨ safi = 128) :
    supported afi safi = true := by
  rcases ha with ha | ha <;> rcases hsf with h | h | h | h <;> subst ha <;> subst h <;> decide

theorem prewf_mpAttr (p : SessParams) (r : RouteReq) (nh : Bytes) (hs : WFSess p) (hw : WFReq p r)
    (hn : nh.length = 4 ∨ nh.length = 16) : PreWF (paramsOf p) (mpAttr p r nh) := by
  obtain ⟨ha, hsf, hnl, _, _⟩ := hw
  refine prewf_mk _ _ _ _ rfl ⟨supported_of _ _ ha hsf, mpNextHop_len p r nh hs ha hsf hn, ?_⟩
  intro n hn'
  simp only [List.mem_singleton] at hn'
  subst hn'
  exact hnl

theorem isTail_mp (p : SessParams) (r : RouteReq) (nh : Bytes) : IsTail [mpAttr p r nh] := by
  intro x hx
  simp only [List.mem_singleton] at hx
  subst hx
  exact ⟨_, _, _, _, rfl⟩

theorem isTail_nil : IsTail [] := by intro x hx; cases hx

/-- RFC 4760 / 2545 / 4364 / 4659 / 8950 accept the length of the next hop field ExaBGP writes. -/
theorem nhLenOk_mp (p : SessParams) (r : RouteReq) (nh : Bytes) (hs : WFSess p)
    (ha : r.afi = 1 ∨ r.afi = 2) (hsf : r.safi = 1 ∨ r.safi = 2 ∨ r.safi = 4 ∨ r.safi = 128)
    (hfam : NhFamilyOk p r nh) (hll : NoVpnLinkLocal p r nh) :
    nhLenOk (paramsOf p) r.afi r.safi (mpNextHop p r nh).length = true := by
  obtain ⟨x, e, hx⟩ := mpNextHop_eq p r nh ha hsf
  rw [e, List.length_append, List.length_replicate, List.length_append]
  unfold nhLenOk
  generalize hb : (if (r.safi == 128) = true then 8 else 0) = b
  rcases ha with ha | ha
  · -- IPv4 family: 4-byte next hop, or 16 bytes under RFC 8950
    have hx0 : x.length = 0 := by
      rcases hx with h | ⟨h2, _⟩
      · rw [h]; rfl
      · omega
    rcases hfam.1 ha with h4 | ⟨h16, hext⟩
    · simp [ha, h4, hx0]
    · rw [ha] at hext
      have hmem : (1, r.safi) ∈ p.extnh := by simpa using hext
      simp [ha, h16, hx0, paramsOf, hmem]
  · -- IPv6 family: 16 bytes, or 32 with the link-local address (never behind a VPN next hop)
    have h16 := hfam.2 ha
    rcases hx with h | ⟨_, hi, hl⟩
    · simp [ha, h16, h]
    · have hlen := hs.linkLocal_len hl
      have h128 : ¬ r.safi = 128 := fun h => by
        have := hll ha h (by rw [hl]; rfl); rw [hi] at this; cases this
      rw [if_neg (by simpa using h128)] at hb
      simp [ha, h16, hlen, ← hb]

theorem nhAddr_mp (p : SessParams) (r : RouteReq) (nh : Bytes)
    (ha : r.afi = 1 ∨ r.afi = 2) (hsf : r.safi = 1 ∨ r.safi = 2 ∨ r.safi = 4 ∨ r.safi = 128)
    (hn : nh.length = 4 ∨ nh.length = 16) (hfam : NhFamilyOk p r nh) :
    nhAddr r.safi (mpNextHop p r nh) = nh := by
  obtain ⟨x, e, hx⟩ := mpNextHop_eq p r nh ha hsf
  unfold nhAddr
  rw [e, List.drop_left' (List.length_replicate ..)]
  dsimp only
  rcases hx with rfl | ⟨h2, _, _⟩
  · rw [List.append_nil]
    rcases hn with h | h
    · rw [if_pos (by rw [h]; rfl)]
    · rw [if_neg (by rw [h]; decide), List.take_of_length_le (Nat.le_of_eq h)]
  · have h16 := hfam.2 h2
    rw [if_neg (by rw [List.length_append, h16]; simp; omega), List.take_left' h16]

/-- Only IPv4 unicast with an IPv4 next hop goes into the NLRI field. The proof reads the generated SAFI list of
    `messages()` and stops working when a SAFI is added there. -/
theorem classic_unicast (r : RouteReq) (nh : Bytes) (h : classic r nh = true) :
    r.afi = 1 ∧ r.safi = 1 ∧ nh.length = 4 := by
  simp only [classic, classicSafisAnnounce, Bool.and_eq_true, beq_iff_eq, List.contains_cons,
    List.contains_nil, Bool.or_false] at h
  exact ⟨h.1.1, h.1.2, h.2⟩

theorem nh_facts (p : SessParams) (r : RouteReq) (nh : Bytes) (hs : WFSess p) (hw : WFReq p r)
    (h : resolveNh p r = some nh) : (nh.length = 4 ∨ nh.length = 16) ∧ WFBytes nh := by
  obtain ⟨_, _, _, hnh, _⟩ := hw
  obtain ⟨_, _, _, _, _, _, hla, hlaw, hrid, hridw, _⟩ := hs
  revert h
  fun_cases resolveNh p r <;> intro h
  case case1 a hn => rw [hn] at hnh; cases h; exact ⟨.inl hnh.1, hnh.2⟩
  case case2 a hn => rw [hn] at hnh; cases h; exact ⟨.inr hnh.1, hnh.2⟩
  case case3 =>
    revert h
    fun_cases ipSelf p r.afi <;> intro h <;> cases h
    · exact ⟨hla, hlaw⟩
    · exact ⟨.inl hrid, hridw⟩

theorem resolveNh_self (p : SessParams) (r : RouteReq) (hw : WFReq p r) (hself : r.nexthop = .self)
    (hok : SelfOk p r) : resolveNh p r = some p.localAddr := by
  have hso := hok hself
  unfold resolveNh
  rw [hself]
  simp only [ipSelf]
  rcases hw.1 with ha | ha
  · simp [ha, hso.1 ha]
  · simp [ha, hso.2 ha]

theorem wantNh_eq (p : SessParams) (r : RouteReq) (nh : Bytes) (hw : WFReq p r) (hself : SelfOk p r)
    (h : resolveNh p r = some nh) : wantNh p r = nh := by
  unfold wantNh
  cases hn : r.nexthop with
  | v4 a => unfold resolveNh at h; rw [hn] at h; simpa using h
  | v6 a => unfold resolveNh at h; rw [hn] at h; simpa using h
  | self => rw [resolveNh_self p r hw hn hself] at h; exact Option.some.inj h

theorem mem_semAll (p : SessParams) (r : RouteReq) (nh : Bytes) (k : Nat) (a : Attr) (hk : k ∈ codeOrder)
    (ha : a ∈ semCode p r nh k) : a ∈ semAll p r nh :=
  List.mem_flatMap.2 ⟨k, hk, ha⟩

theorem sem_has1 (p : SessParams) (r : RouteReq) (nh : Bytes) : 1 ∈ (semAll p r nh).map Attr.code :=
  List.mem_map.2 ⟨_, mem_semAll p r nh 1 _ (by decide) (by rw [semCode_origin]; exact List.mem_singleton.2 rfl), rfl⟩

theorem semAsPath_head (p : SessParams) (s : List Seg) : ∃ a t, semAsPath p s = a :: t ∧ a.code = 2 := by
  unfold semAsPath
  cases p.asn4
  · exact ⟨_, _, rfl, rfl⟩
  · exact ⟨_, _, rfl, rfl⟩

theorem sem_has2 (p : SessParams) (r : RouteReq) (nh : Bytes) : 2 ∈ (semAll p r nh).map Attr.code := by
  obtain ⟨a, t, e, hc⟩ := semAsPath_head p (modelPath p r)
  exact List.mem_map.2 ⟨a, mem_semAll p r nh 2 a (by decide) (by rw [semCode_asPath, e]; exact List.mem_cons_self), hc⟩

theorem sem_has3 (p : SessParams) (r : RouteReq) (nh : Bytes) (h : nh.length = 4) :
    3 ∈ (semAll p r nh).map Attr.code :=
  List.mem_map.2 ⟨_, mem_semAll p r nh 3 _ (by decide) (by rw [semCode_nextHop, if_pos h]; exact List.mem_singleton.2 rfl), rfl⟩

theorem semAll_two (p : SessParams) (r : RouteReq) (nh : Bytes) : ∃ a b t, semAll p r nh = a :: b :: t := by
  obtain ⟨b, t, e, _⟩ := semAsPath_head p (modelPath p r)
  unfold semAll codeOrder
  rw [List.flatMap_cons, List.flatMap_cons, semCode_origin, semCode_asPath, e]
  exact ⟨_, _, _, rfl⟩

theorem sem_code_ne (p : SessParams) (r : RouteReq) (nh : Bytes) (c : Nat) (hc : c ∉ allCodes) :
    ∀ a ∈ semAll p r nh, a.code ≠ c :=
  fun _ ha e => hc (e ▸ (codes_semAll p r nh).subset (List.mem_map_of_mem ha))

theorem mpErr_false_of_code (P : Params) (a : Attr) (h : a.code ≠ 14) : mpErr P a = false := by
  fun_cases mpErr P a
  case case1 hv => exact absurd (by unfold Attr.code; rw [hv]; rfl) h
  case case2 => rfl

theorem mpAnnounces_nil (l : List Attr) (h : ∀ a ∈ l, a.code ≠ 14) : mpAnnounces l = [] := by
  refine List.eq_nil_iff_forall_not_mem.2 fun x hx => ?_
  obtain ⟨a, ha, _, _, _, _, e, _⟩ := (mem_mpAnnounces l x).1 hx
  exact h a ha (by unfold Attr.code; rw [e]; rfl)

theorem mpWithdraws_nil (l : List Attr) (h : ∀ a ∈ l, a.code ≠ 15) : mpWithdraws l = [] := by
  refine List.eq_nil_iff_forall_not_mem.2 fun x hx => ?_
  obtain ⟨a, ha, _, _, _, e, _⟩ := (mem_mpWithdraws l x).1 hx
  exact h a ha (by unfold Attr.code; rw [e]; rfl)

theorem mpAnnounces_append (a b : List Attr) : mpAnnounces (a ++ b) = mpAnnounces a ++ mpAnnounces b := by
  induction a with
  | nil => rfl
  | cons x t ih => rw [List.cons_append, mpAnnounces, mpAnnounces, ih, List.append_assoc]

theorem allCodes14_nodup : (allCodes ++ [14]).Nodup := by decide +kernel

theorem encodeUpdate_announce (P : Params) (A : List Attr) (N : List Nlri) :
    encodeUpdate P ⟨[], A, N⟩ =
      be16 0 ++ ([] ++ (be16 (encAttrs P A).length ++ (encAttrs P A ++ encNlris 1 false N))) := rfl

/-- The checks of RFC 4271 §6.3 across attributes pass when no type code repeats, every MP_REACH_NLRI is in
    order, and ORIGIN and AS_PATH (NEXT_HOP too, beside NLRI) are there. -/
theorem semErr_none (P : Params) (u : UpdateSem) (hnd : (u.attrs.map Attr.code).Nodup)
    (hmp : ∀ a ∈ u.attrs, mpErr P a = false) (h1 : 1 ∈ u.attrs.map Attr.code) (h2 : 2 ∈ u.attrs.map Attr.code)
    (h3 : u.nlri ≠ [] → 3 ∈ u.attrs.map Attr.code) : semErr P u = none := by
  have hany : u.attrs.any (mpErr P) = false :=
    List.any_eq_false.2 fun a ha => by rw [hmp a ha]; exact Bool.false_ne_true
  have e3 : (!u.nlri.isEmpty && !(true && true && hasCode u.attrs 3)) = false := by
    cases hn : u.nlri with
    | nil => rfl
    | cons n t => rw [hasCode_true _ 3 (h3 (by rw [hn]; exact List.cons_ne_nil _ _))]; rfl
  unfold semErr
  rw [dupCode_false _ hnd, if_neg Bool.false_ne_true, hany, if_neg Bool.false_ne_true, hasCode_true _ 1 h1,
    hasCode_true _ 2 h2, e3, if_neg Bool.false_ne_true, Bool.and_self, Bool.not_true, Bool.and_false,
    if_neg Bool.false_ne_true]

theorem wfUpdate_block (p : SessParams) (r : RouteReq) (nh : Bytes) (tail : List Attr) (N : List Nlri)
    (hs : WFSess p) (hw : ∀ a ∈ r.attrs, WFReqAttr a) (hnw : WFBytes nh)
    (htw : ∀ a ∈ tail, PreWF (paramsOf p) a) (htc : (tail.map Attr.code).Sublist [14])
    (htm : ∀ a ∈ tail, mpErr (paramsOf p) a = false)
    (hN : ∀ n ∈ N, WFNlri 1 1 ((paramsOf p).ap 1 1) false n) (h3 : N ≠ [] → nh.length = 4)
    (hA : (encAttrs (paramsOf p) (semAll p r nh ++ tail)).length < 65536)
    (hsz : 23 + (encAttrs (paramsOf p) (semAll p r nh ++ tail)).length + (encNlris 1 false N).length ≤ p.msgSize) :
    WFUpdate (paramsOf p) ⟨[], semAll p r nh ++ tail, N⟩ := by
  have hpre : ∀ a ∈ semAll p r nh ++ tail, PreWF (paramsOf p) a :=
    List.forall_mem_append.2 ⟨prewf_semAll p r nh hs.1 hw (fun _ => hnw), htw⟩
  have hcodes : ((semAll p r nh ++ tail).map Attr.code).Sublist (allCodes ++ [14]) := by
    rw [List.map_append]; exact (codes_semAll p r nh).append htc
  have hin : ∀ c, c ∈ (semAll p r nh).map Attr.code → c ∈ (semAll p r nh ++ tail).map Attr.code :=
    fun c h => by rw [List.map_append]; exact List.mem_append_left _ h
  have hlen : (encodeUpdate (paramsOf p) ⟨[], semAll p r nh ++ tail, N⟩).length + 19 ≤ p.msgSize := by
    rw [encodeUpdate_announce]
    simp only [List.length_append, be16_length, List.length_nil]
    omega
  exact ⟨List.forall_mem_nil _, wfattrs_of_prewf _ _ hpre hA, hN, Nat.zero_lt_succ _, hA, hlen,
    semErr_none _ _ (hcodes.nodup allCodes14_nodup)
      (List.forall_mem_append.2
        ⟨fun a ha => mpErr_false_of_code _ a (sem_code_ne p r nh 14 (by decide) a ha), htm⟩)
      (hin 1 (sem_has1 p r nh)) (hin 2 (sem_has2 p r nh)) (fun hne => hin 3 (sem_has3 p r nh (h3 hne)))⟩

theorem decode_block (p : SessParams) (r : RouteReq) (nh : Bytes) (tail : List Attr) (N : List Nlri) (A Nb : Bytes)
    (hA : A = encAttrs (paramsOf p) (semAll p r nh ++ tail)) (hNb : Nb = encNlris 1 false N)
    (hs : WFSess p) (hw : ∀ a ∈ r.attrs, WFReqAttr a) (hnw : WFBytes nh)
    (htw : ∀ a ∈ tail, PreWF (paramsOf p) a) (htc : (tail.map Attr.code).Sublist [14])
    (htm : ∀ a ∈ tail, mpErr (paramsOf p) a = false)
    (hN : ∀ n ∈ N, WFNlri 1 1 ((paramsOf p).ap 1 1) false n) (h3 : N ≠ [] → nh.length = 4)
    (hl : A.length < 65536) (hsz : 23 + A.length + Nb.length ≤ p.msgSize) :
    decodeUpdate (paramsOf p) (be16 0 ++ ([] ++ (be16 A.length ++ (A ++ Nb)))) =
      .ok ⟨[], semAll p r nh ++ tail, N⟩ := by
  subst hA hNb
  rw [← encodeUpdate_announce]
  exact decodeUpdate_encodeUpdate (paramsOf p) ⟨[], semAll p r nh ++ tail, N⟩ (wfUpdate_block p r nh tail N hs hw hnw htw htc htm hN h3 hl hsz)

theorem meets_attrs (p : SessParams) (r : RouteReq) (nh : Bytes) (tail : List Attr) (N : List Nlri)
    (ht : IsTail tail) (hs : WFSess p) (hw : ∀ a ∈ r.attrs, WFReqAttr a) (hwn : wantNh p r = nh) :
    (∀ c, c ≠ 3 → SameOpt (reportAttr (paramsOf p) ⟨[], semAll p r nh ++ tail, N⟩ c) (want p r c)) ∧
    (reportAttr (paramsOf p) ⟨[], semAll p r nh ++ tail, N⟩ 3 = none ∨
      ((wantNh p r).length = 4 ∧
        reportAttr (paramsOf p) ⟨[], semAll p r nh ++ tail, N⟩ 3 = some (.nextHop (rd32 (wantNh p r))))) := by
  refine ⟨fun c hc => (reportAttr_eq _ _ c) ▸ attrs_meet p r nh tail ht hs hw c hc, ?_⟩
  rw [reportAttr_eq, hwn]
  refine (rep_nextHop p r nh tail ht _ _) ▸ ?_
  by_cases h4 : nh.length = 4
  · rw [if_pos h4]; exact .inr ⟨h4, rfl⟩
  · rw [if_neg h4]; exact .inl rfl

theorem report_announce (P : Params) (u : UpdateSem) :
    (report P u).announce =
      u.nlri.map (fun n => (1, 1, (match findNextHop u.attrs with | some ip => be32 ip | none => []), n)) ++
        mpAnnounces u.attrs := rfl

theorem meets_classic (p : SessParams) (r : RouteReq) (nh : Bytes) (hs : WFSess p)
    (hw : ∀ a ∈ r.attrs, WFReqAttr a) (hwn : wantNh p r = nh) (hnw : WFBytes nh)
    (hafi : r.afi = 1) (hsafi : r.safi = 1) (h4 : nh.length = 4) :
    Meets p r ⟨[], semAll p r nh ++ [], [wantNlri p r]⟩ := by
  have hm := meets_attrs p r nh [] [wantNlri p r] isTail_nil hs hw hwn
  refine ⟨?_, ?_, rfl, hm.1, hm.2⟩
  · rw [report_announce, findNextHop_block p r nh [] isTail_nil, if_pos h4, List.append_nil,
      mpAnnounces_nil _ (sem_code_ne p r nh 14 (by decide)), hwn, hafi, hsafi]
    exact congrArg (fun b => [(1, 1, b, wantNlri p r)] ++ []) (be32_rd32 nh h4 hnw)
  · rw [List.append_nil]; exact mpWithdraws_nil _ (sem_code_ne p r nh 15 (by decide))

theorem meets_mp (p : SessParams) (r : RouteReq) (nh : Bytes) (hs : WFSess p)
    (hw : ∀ a ∈ r.attrs, WFReqAttr a) (hwn : wantNh p r = nh)
    (hna : nhAddr r.safi (mpNextHop p r nh) = nh) :
    Meets p r ⟨[], semAll p r nh ++ [mpAttr p r nh], []⟩ := by
  have hm := meets_attrs p r nh [mpAttr p r nh] [] (isTail_mp p r nh) hs hw hwn
  refine ⟨?_, ?_, ?_, hm.1, hm.2⟩
  · rw [report_announce, mpAnnounces_append, mpAnnounces_nil _ (sem_code_ne p r nh 14 (by decide)), hwn]
    exact congrArg (fun b => [(r.afi, r.safi, b, wantNlri p r)]) hna
  · refine mpWithdraws_nil _ (List.forall_mem_append.2 ⟨sem_code_ne p r nh 15 (by decide), ?_⟩)
    exact List.forall_mem_singleton.2 (by decide : (14 : Nat) ≠ 15)
  · obtain ⟨a, b, t, e⟩ := semAll_two p r nh
    rw [e]; rfl

/-- What `c01_roundtrip_partial` asks of the next hop: it resolves, and none of the open next-hop findings of
    `Props/C01` applies (one per remaining conjunct). -/
def NextHopOk (p : SessParams) (r : RouteReq) : Prop :=
  ∃ nh, resolveNh p r = some nh ∧ (nhFamilyGuard = false → NhFamilyOk p r nh) ∧ NoVpnLinkLocal p r nh ∧ SelfOk p r

theorem nhFamilyOk_of_B (p : SessParams) (r : RouteReq) (nh : Bytes) (ha : r.afi = 1 ∨ r.afi = 2)
    (h : nhFamilyOkB p r nh = true) : NhFamilyOk p r nh := by
  unfold nhFamilyOkB at h
  rcases ha with ha | ha
  · simp only [ha, show ((1 : Nat) == 2) = false by decide, Bool.false_eq_true, if_false, Bool.or_eq_true,
      Bool.and_eq_true, beq_iff_eq] at h
    refine ⟨fun _ => ?_, fun h2 => by omega⟩
    rcases h with h | ⟨h1, h2⟩
    · exact Or.inl h
    · exact Or.inr ⟨h1, by rw [ha]; exact h2⟩
  · simp only [ha, show ((2 : Nat) == 2) = true by decide, if_true, beq_iff_eq] at h
    exact ⟨fun h1 => by omega, fun _ => h⟩

theorem mpReach_len (p : SessParams) (r : RouteReq) (nh : Bytes) :
    (mpReach p r nh).length = (mpPayload p r nh).length + (if (mpPayload p r nh).length > 255 then 4 else 3) := by
  unfold mpReach mpHeader
  rw [List.length_append]
  by_cases h : (mpPayload p r nh).length > 255
  · rw [if_pos h, if_pos h, List.length_cons, List.length_cons, be16_length]; omega
  · rw [if_neg h, if_neg h]; simp only [List.length_cons, List.length_nil]; omega

theorem defaultPathRaises_false (p : SessParams) (r : RouteReq) : defaultPathRaises p r = false := by
  simp [defaultPathRaises, defaultPathAsn4]

theorem sent_of_ite {c : Prop} [Decidable c] {x : Out} {bs : Bytes} (h : (if c then .nothing else x) = Out.sent bs) :
    ¬ c ∧ x = .sent bs := by
  by_cases hc : c
  · rw [if_pos hc] at h; cases h
  · rw [if_neg hc] at h; exact ⟨hc, h⟩

/-- When `encodeExa` sends: the next-hop family passed the check (where the tree has one), the block left room,
    and the body is one of two shapes. -/
theorem encodeExa_sent {p : SessParams} {r : RouteReq} {bs nh : Bytes} (hnh : resolveNh p r = some nh)
    (h : encodeExa p r = .sent bs) :
    (nhFamilyGuard = true → nhFamilyOkB p r nh = true) ∧
    (classic r nh = true → 23 + (attrBytes p r nh).length + (packNlri p r).length ≤ p.msgSize ∧
      bs = be16 0 ++ ([] ++ (be16 (attrBytes p r nh).length ++ (attrBytes p r nh ++ packNlri p r)))) ∧
    (classic r nh = false → 23 + (attrBytes p r nh ++ mpReach p r nh).length ≤ p.msgSize ∧
      bs = be16 0 ++ ([] ++ (be16 (attrBytes p r nh ++ mpReach p r nh).length ++
        ((attrBytes p r nh ++ mpReach p r nh) ++ [])))) := by
  unfold encodeExa at h
  rw [hnh] at h
  dsimp only at h
  rw [defaultPathRaises_false, if_neg Bool.false_ne_true] at h
  -- every guard that answers `.nothing` has failed
  obtain ⟨cg, h⟩ := sent_of_ite h
  obtain ⟨c1, h⟩ := sent_of_ite h
  obtain ⟨c2, h⟩ := sent_of_ite h
  refine ⟨fun hg => ?_, fun hc => ?_, fun hc => ?_⟩
  · cases hb : nhFamilyOkB p r nh
    · exact absurd (by rw [hg, hb]; rfl) cg
    · rfl
  · rw [if_pos hc] at h
    by_cases c3 : (packNlri p r).length ≤ p.msgSize - 23 - (attrBytes p r nh).length
    · rw [if_pos c3] at h; exact ⟨by omega, (Out.sent.inj h).symm⟩
    · rw [if_neg c3] at h; cases h
  · rw [if_neg (by rw [hc]; exact Bool.false_ne_true)] at h
    obtain ⟨c3, h⟩ := sent_of_ite h
    refine ⟨?_, (Out.sent.inj h).symm⟩
    rw [List.length_append, mpReach_len]; omega

/-- The decoded message of whatever `encodeExa` sends: the block, plus MP_REACH_NLRI when the route is not
    in the NLRI field. -/
def sentSem (p : SessParams) (r : RouteReq) (nh : Bytes) : UpdateSem :=
  ⟨[], semAll p r nh ++ (if classic r nh then [] else [mpAttr p r nh]), if classic r nh then [wantNlri p r] else []⟩

theorem mpErr_mpAttr (p : SessParams) (r : RouteReq) (nh : Bytes)
    (h : nhLenOk (paramsOf p) r.afi r.safi (mpNextHop p r nh).length = true) :
    mpErr (paramsOf p) (mpAttr p r nh) = false := by
  show (!(nhLenOk (paramsOf p) r.afi r.safi (mpNextHop p r nh).length) || [wantNlri p r].isEmpty) = false
  rw [h]; rfl

theorem roundtrip_sent (p : SessParams) (r : RouteReq) (bs : Bytes) (nh : Bytes) (hs : WFSess p) (hw : WFReq p r)
    (hnh : resolveNh p r = some nh) (hfam0 : nhFamilyGuard = false → NhFamilyOk p r nh)
    (hll : NoVpnLinkLocal p r nh) (hself : SelfOk p r)
    (hsent : encodeExa p r = .sent bs) :
    decodeUpdate (paramsOf p) bs = .ok (sentSem p r nh) ∧ Meets p r (sentSem p r nh) := by
  obtain ⟨hnl, hnw⟩ := nh_facts p r nh hs hw hnh
  have hwn := wantNh_eq p r nh hw hself hnh
  have hmpre := prewf_mpAttr p r nh hs hw hnl
  obtain ⟨hguard, hclassic, hmp⟩ := encodeExa_sent hnh hsent
  obtain ⟨ha, hsf, hnlri, _, hattrs⟩ := hw
  have hm := hs.msgSize_le
  have hAeq := attrBytes_eq p r nh hattrs (fun _ => hnw)
  unfold sentSem
  cases hc : classic r nh
  · obtain ⟨hsz, rfl⟩ := hmp hc
    -- the next hop family: checked by the code (when the tree has the check), else assumed
    have hfam : NhFamilyOk p r nh := by
      cases hg : nhFamilyGuard
      · exact hfam0 hg
      · exact nhFamilyOk_of_B p r nh ha (hguard hg)
    rw [if_neg Bool.false_ne_true, if_neg Bool.false_ne_true]
    exact ⟨decode_block p r nh [mpAttr p r nh] [] _ _
        (by rw [hAeq, mpReach_eq p r nh hnlri, encAttrs_append, encAttrs_single]) rfl hs hattrs hnw
        (List.forall_mem_singleton.2 hmpre) (.refl _)
        (List.forall_mem_singleton.2 (mpErr_mpAttr p r nh (nhLenOk_mp p r nh hs ha hsf hfam hll)))
        (List.forall_mem_nil _) (fun h => absurd rfl h) (by omega) hsz,
      meets_mp p r nh hs hattrs hwn (nhAddr_mp p r nh ha hsf hnl hfam)⟩
  · obtain ⟨hsz, rfl⟩ := hclassic hc
    obtain ⟨hafi, hsafi, h4⟩ := classic_unicast r nh hc
    rw [if_pos rfl, if_pos rfl]
    refine ⟨decode_block p r nh [] [wantNlri p r] _ _ (by rw [List.append_nil]; exact hAeq)
        (by rw [packNlri_eq p r hnlri, hsafi, encNlris_single]) hs hattrs hnw
        (List.forall_mem_nil _) (List.nil_sublist _) (List.forall_mem_nil _) ?_ (fun _ => h4) (by omega) hsz,
      meets_classic p r nh hs hattrs hwn hnw hafi hsafi h4⟩
    refine List.forall_mem_singleton.2 ?_
    have hap : (paramsOf p).ap 1 1 = apSends p r := by rw [apSends, hafi, hsafi]; rfl
    rw [hap]; rw [hafi, hsafi] at hnlri; exact hnlri

theorem sentSem_attrs (p : SessParams) (r : RouteReq) (nh : Bytes) :
    ∃ tail, IsTail tail ∧ (sentSem p r nh).attrs = semAll p r nh ++ tail :=
  ⟨_, forall_mem_ite _ isTail_nil (isTail_mp p r nh), rfl⟩

theorem rawAttr_sentSem (p : SessParams) (r : RouteReq) (nh : Bytes) (c : Nat) (hc : c = 2 ∨ c = 17) :
    rawAttr (sentSem p r nh) c = (semAsPath p (modelPath p r)).findSome? (gRaw c) := by
  obtain ⟨tail, ht, e⟩ := sentSem_attrs p r nh
  rw [rawAttr_eq, e, findSome_append_tail _ _ _ (fun x hx => gRaw_none c x (by
    rw [tail_code tail ht x hx]; rcases hc with h | h <;> subst h <;> decide))]
  have hk : slotOf c = 2 := by rcases hc with h | h <;> subst h <;> rfl
  rw [find_semAll_slot p r nh (gRaw c) c (gRaw_none c) (hk ▸ by decide), hk, semCode_asPath]

end Exa.WireExa
