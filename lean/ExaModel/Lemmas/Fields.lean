import ExaModel.Model.Fields
/-! Lemmas for M-Fields: big-endian integers of any width, the generic `Layout` round trip, the
    AS_PATH segment split, the facts checked over the whole table of fields, the AS_TRANS
    construction, and the acceptance side (the generated parser bounds). -/
namespace Exa.Fields
open Exa

theorem beN_length (n v : Nat) : (beN n v).length = n := by
  induction n generalizing v with
  | zero => rfl
  | succ n ih => simp [beN, ih]

theorem wf_beN (n v : Nat) : WFBytes (beN n v) := by
  induction n generalizing v with
  | zero => intro b hb; cases hb
  | succ n ih =>
    simp only [beN]
    apply wfBytes_append (ih _)
    intro b hb; simp at hb; subst hb; omega

theorem rdN_append_single (bs : Bytes) (b : Nat) : rdN (bs ++ [b]) = rdN bs * 256 + b := by
  simp [rdN, List.foldl_append]

theorem rdN_beN (n v : Nat) : rdN (beN n v) = v % 256 ^ n := by
  induction n generalizing v with
  | zero => simp [beN, rdN, Nat.mod_one]
  | succ n ih =>
    simp only [beN, rdN_append_single, ih]
    have h : v % (256 * 256 ^ n) = v % 256 + 256 * (v / 256 % 256 ^ n) := Nat.mod_mul
    rw [Nat.pow_succ, Nat.mul_comm (256 ^ n) 256, h]
    omega

theorem rdN_foldl_lt (bs : Bytes) (h : WFBytes bs) (acc : Nat) :
    bs.foldl (fun a b => a * 256 + b) acc < (acc + 1) * 256 ^ bs.length := by
  induction bs generalizing acc with
  | nil => simp
  | cons b t ih =>
    have hb : b < 256 := h b List.mem_cons_self
    refine Nat.lt_of_lt_of_le (ih (fun x hx => h x (List.mem_cons_of_mem _ hx)) (acc * 256 + b)) ?_
    rw [List.length_cons, Nat.pow_succ, Nat.mul_comm (256 ^ _) 256, ← Nat.mul_assoc]
    exact Nat.mul_le_mul_right _ (by omega)

theorem rdN_lt (bs : Bytes) (h : WFBytes bs) : rdN bs < 256 ^ bs.length := by
  have := rdN_foldl_lt bs h 0
  simpa [rdN] using this

namespace Layout

theorem wf_iff (l : Layout) : l.wf = true ↔
    0 < l.mul ∧ l.add < l.mul ∧ 0 < l.limit ∧ l.limit ≤ l.modulus ∧ (l.limit - 1) * l.mul + l.add < 256 ^ l.width := by
  simp [wf, and_assoc]

theorem encode_length (l : Layout) (v : Nat) : (l.encode v).length = l.width := beN_length _ _

theorem encode_wfBytes (l : Layout) (v : Nat) : WFBytes (l.encode v) := wf_beN _ _

theorem raw_lt (l : Layout) (hw : l.wf = true) (v : Nat) (hv : v < l.limit) :
    v * l.mul + l.add < 256 ^ l.width := by
  obtain ⟨_, _, _, _, h5⟩ := (wf_iff l).1 hw
  have : v * l.mul ≤ (l.limit - 1) * l.mul := Nat.mul_le_mul_right _ (by omega)
  omega

theorem roundtrip (l : Layout) (hw : l.wf = true) (v : Nat) (hv : l.fits v = true) :
    l.decode (l.encode v) = v := by
  have hv' : v < l.limit := by simpa [fits] using hv
  obtain ⟨h1, h2, _, h4, _⟩ := (wf_iff l).1 hw
  have hraw := raw_lt l hw v hv'
  simp only [decode, encode, rdN_beN, Nat.mod_eq_of_lt hraw]
  have hdiv : (v * l.mul + l.add) / l.mul = v := by
    rw [Nat.mul_comm, Nat.mul_add_div h1, Nat.div_eq_of_lt h2, Nat.add_zero]
  rw [hdiv]
  exact Nat.mod_eq_of_lt (by omega)

theorem encode_valid (l : Layout) (hw : l.wf = true) (v : Nat) (hv : l.fits v = true) :
    l.validWire (l.encode v) = true := by
  have hv' : v < l.limit := by simpa [fits] using hv
  simp [validWire, roundtrip l hw v hv, hv']

theorem nofit (l : Layout) (v : Nat) (hv : l.fits v = false) (bs : Bytes)
    (hvalid : l.validWire bs = true) : l.decode bs ≠ v := by
  have h1 : ¬ v < l.limit := by simpa [fits] using hv
  have h2 : l.decode bs < l.limit := by simpa [validWire] using hvalid
  omega

theorem validWire_of_full (l : Layout) (hw : l.wf = true) (hf : l.full = true) (bs : Bytes)
    (hlen : bs.length = l.width) (hbs : WFBytes bs) : l.validWire bs = true := by
  obtain ⟨_, _, h3, h4, _⟩ := (wf_iff l).1 hw
  have hf' : l.modulus ≤ l.limit ∨ (256 ^ l.width - 1) / l.mul < l.limit := by
    simpa [full] using hf
  refine decide_eq_true (?_ : rdN bs / l.mul % l.modulus < l.limit)
  rcases hf' with hf' | hf'
  · exact Nat.lt_of_lt_of_le (Nat.mod_lt _ (Nat.lt_of_lt_of_le h3 h4)) hf'
  · have hlt : rdN bs < 256 ^ l.width := hlen ▸ rdN_lt bs hbs
    exact Nat.lt_of_le_of_lt (Nat.mod_le _ _)
      (Nat.lt_of_le_of_lt (Nat.div_le_div_right (Nat.le_sub_one_of_lt hlt)) hf')

end Layout

theorem segSplitAux_sum (fuel n : Nat) (h : n ≤ fuel) : (segSplitAux fuel n).sum = n := by
  fun_induction segSplitAux fuel n with
  | case1 => simp; omega                                   -- no fuel
  | case2 => simp                                          -- nothing left
  | case3 => simp                                          -- the last segment
  | case4 fuel n _ _ ih => simp [ih (by omega)]; omega     -- a full segment, then the rest

theorem segSplitAux_le (fuel n : Nat) : ∀ x ∈ segSplitAux fuel n, 0 < x ∧ x ≤ 255 := by
  fun_induction segSplitAux fuel n with
  | case1 | case2 => simp                     -- no fuel, nothing left
  | case3 => simp; omega                      -- the last segment
  | case4 fuel n _ _ ih => simpa using ih     -- a full segment, then the rest

/-! ## facts about the whole table of fields

`allFields` lists every field, so a decidable fact about all fields is one evaluation over the list. -/

theorem mem_allFields (f : Field) : f ∈ allFields := by
  -- after the four AS-number entries the list follows the order of the constructors
  have at_idx : ∀ f : Field, (allFields.drop (f.ctorIdx + 2)).head? = some f → f ∈ allFields :=
    fun _ h => List.mem_of_mem_drop (List.mem_of_mem_head? h)
  cases f with
  | asPathAsn s | aggregatorAsn s => cases s <;> decide
  | _ => exact at_idx _ rfl

theorem of_allFields {p : Field → Prop} (h : ∀ f ∈ allFields, p f) (f : Field) : p f :=
  h f (mem_allFields f)

theorem layout_wf (f : Field) : (layout f).wf = true := by
  revert f; apply of_allFields; decide +kernel

theorem layout_limit (f : Field) : (layout f).limit = rfcLimit f := by
  revert f; apply of_allFields; decide +kernel

/-- a list that is accepted fits its length field -/
theorem acceptLimit_le_rfcLimit (f : Field) : acceptLimit f ≤ rfcLimit f := by
  revert f; apply of_allFields; decide +kernel

/-! ## the AS_TRANS construction (an AS number on a 2-byte session) -/

theorem trans_layout (f : Field) (h : f.isTrans = true) : layout f = Layout.uint 4 := by
  revert h
  fun_cases Field.isTrans f
  · exact fun _ => rfl
  · exact fun _ => rfl
  · nofun

theorem trans_roundtrip (f : Field) (ht : f.isTrans = true) (v : Nat) (h : fits f v = true) :
    decodeField f (encodeField f v) = v := by
  have hv : v < 256 ^ 4 := by simpa [fits, Layout.fits, trans_layout f ht, Layout.uint] using h
  simp only [decodeField, encodeField, ht, if_true, List.take_left' (beN_length 2 _),
    List.drop_left' (beN_length 2 _), rdN_beN, asTrans,
    Nat.mod_eq_of_lt hv]
  -- the 2-byte element is `v` itself below 65536 and AS_TRANS, itself below 65536, otherwise
  split <;> split <;> omega

theorem trans_nofit (f : Field) (ht : f.isTrans = true) (v : Nat) (h : fits f v = false) (bs : Bytes)
    (hlen : bs.length = width f) (hbs : WFBytes bs) : decodeField f bs ≠ v := by
  have hv : ¬ v < 256 ^ 4 := by simpa [fits, Layout.fits, trans_layout f ht, Layout.uint] using h
  have hl : bs.length = 6 := by simpa [width, ht] using hlen
  have h2 := rdN_lt (bs.take 2) (wfBytes_take 2 hbs)
  have h4 := rdN_lt (bs.drop 2) (wfBytes_drop 2 hbs)
  simp [hl] at h2 h4
  simp only [decodeField, ht, if_true]
  split <;> omega

/-! ## the acceptance side

The generated parser bounds are, row by row, `[0, acceptLimit f - 1]` for the fields in the order of
`allFields`; the names being distinct, looking a field up by name finds its own row, hence `accepts` is a
plain range check against `acceptLimit`. -/

theorem find?_key_eq {α κ : Type} [BEq κ] [LawfulBEq κ] (key : α → κ) {l : List α}
    (hd : l.Pairwise fun a b => key a ≠ key b) {x : α} (hx : x ∈ l) :
    l.find? (fun y => key y == key x) = some x := by
  induction l with
  | nil => cases hx
  | cons y t ih =>
    obtain ⟨hy, ht⟩ := List.pairwise_cons.1 hd
    rcases List.mem_cons.1 hx with rfl | hx
    · simp
    · rw [List.find?_cons_of_neg (by simpa using hy x hx), ih ht hx]

/-- The names are compared as numbers (their bytes read in base 256): the kernel compares two numerals in
    one step, two strings byte by byte. -/
theorem names_distinct : allFields.Pairwise fun f g => f.name ≠ g.name :=
  (by decide +kernel : allFields.Pairwise fun f g =>
      rdN (f.name.toByteArray.data.toList.map UInt8.toNat) ≠
        rdN (g.name.toByteArray.data.toList.map UInt8.toNat)).imp
    fun h e => h (by rw [e])

theorem Field.ofName?_name (f : Field) : Field.ofName? f.name = some f :=
  find?_key_eq Field.name names_distinct (mem_allFields f)

theorem lookupBound_eq_find? (n : String) (l : List (String × Int × Int)) :
    lookupBound n l = (l.find? (·.1 == n)).map (·.2) := by
  fun_induction lookupBound n l with
  | case1 => rfl
  | case2 k lo hi t h => rw [List.find?_cons_of_pos (by exact h)]; rfl
  | case3 k lo hi t h ih => rw [List.find?_cons_of_neg (by exact h), ih]

/-- **The translation obligation.**  The bounds re-extracted from the parser sources are `0` and
    `acceptLimit f - 1`, field by field: a bound that changes in /repo makes this `rfl` fail. -/
theorem parserBounds_eq : Exa.Generated.FieldLimits.parserBounds =
    allFields.map fun f => (f.name, 0, (acceptLimit f : Int) - 1) := by rfl

theorem parserBound_eq (f : Field) : parserBound f = some (0, (acceptLimit f : Int) - 1) := by
  rw [parserBound, parserBounds_eq, lookupBound_eq_find?, List.find?_map]
  show ((Field.ofName? f.name).map _).map _ = _
  rw [Field.ofName?_name]
  rfl

theorem accepts_eq (f : Field) (v : Int) :
    accepts f v = (decide (0 ≤ v) && decide (v < (acceptLimit f : Int))) := by
  simp only [accepts, parserBound_eq]
  congr 2
  exact propext (by omega)

theorem accepts_iff_lt (f : Field) (v : Int) :
    accepts f v = true ↔ 0 ≤ v ∧ v < (acceptLimit f : Int) := by
  simp [accepts_eq]

theorem acceptLimit_of_not_count (f : Field) (h : f.isCount = false) : acceptLimit f = rfcLimit f := by
  simp [acceptLimit, h]

theorem Field.unit_pos (f : Field) : 0 < f.unit := by
  fun_cases Field.unit f <;> decide

/-- for a list: below `acceptLimit` is "the value leaves room in the UPDATE" -/
theorem count_room (f : Field) (h : f.isCount = true) (n : Nat) :
    n < acceptLimit f ↔ msgFits 65535 (n * f.unit + 4) 128 = true := by
  simp only [acceptLimit, h, if_true, msgFits, decide_eq_true_eq, Nat.lt_succ_iff,
    Nat.le_div_iff_mul_le (Field.unit_pos f)]
  omega

end Exa.Fields
