import ExaModel.Lemmas.FlowRaw
/-! The reference codec above the byte grammar: operator byte fields and the shortest width, the
    per-operator view of an encoded component, `interp (toRaw c) = c`, what a well-formed rule reads back
    as and what `decodeFlow` accepts; the NLRI level (length field with its switch at 240, the two
    flow-vpn branches of `decodeNlri` as one); traffic actions. -/
namespace Exa.Flow

/-- a fact about the 128 operator bytes `opByte` can build, checked on each -/
theorem opByte_fields : ∀ (eol and lt gt eq : Bool), ∀ code < 4,
    opEol (opByte eol and code lt gt eq) = eol ∧ opAnd (opByte eol and code lt gt eq) = and ∧
    opWidth (opByte eol and code lt gt eq) = 2 ^ code ∧ opLt (opByte eol and code lt gt eq) = lt ∧
    opGt (opByte eol and code lt gt eq) = gt ∧ opEq (opByte eol and code lt gt eq) = eq ∧
    opByte eol and code lt gt eq < 256 := by
  decide +kernel

theorem widthCode_lt (v : Nat) : widthCode v < 4 := by
  fun_cases widthCode v <;> decide

theorem widthCode_fits (v : Nat) (h : v < 18446744073709551616) : v < 256 ^ (2 ^ widthCode v) := by
  fun_cases widthCode v <;> assumption

theorem widthCode_min (v w : Nat) (hw : w = 1 ∨ w = 2 ∨ w = 4 ∨ w = 8) (h : v < 256 ^ w) : 2 ^ widthCode v ≤ w := by
  -- `256 ^ k ≤ v < 256 ^ w` gives `k < w`, and the next of 1, 2, 4, 8 above `k` is `2 * k`
  have above : ∀ k, ¬ v < 256 ^ k → k < w := fun k hk =>
    (Nat.pow_lt_pow_iff_right (by decide : 1 < 256)).1 (Nat.lt_of_le_of_lt (Nat.le_of_not_lt hk) h)
  fun_cases widthCode v
  case case1 => show 1 ≤ w; omega
  case case2 h1 _ => have := above 1 h1; show 2 ≤ w; omega
  case case3 h2 _ => have := above 2 h2; show 4 ≤ w; omega
  case case4 h3 => have := above 4 h3; show 8 ≤ w; omega

theorem maxWidth_cases (t : Nat) : maxWidth t = 1 ∨ maxWidth t = 2 ∨ maxWidth t = 4 := by
  fun_cases maxWidth t <;> simp

theorem maxWidth_bound (t v : Nat) (h : v < 256 ^ maxWidth t) : v < 4294967296 := by
  rcases maxWidth_cases t with e | e | e <;> rw [e] at h <;> omega

theorem widthCode_allowed (t v : Nat) (h : v < 256 ^ maxWidth t) : 2 ^ widthCode v ≤ maxWidth t := by
  apply widthCode_min
  · rcases maxWidth_cases t with e | e | e <;> simp [e]
  · exact h

theorem toRawTerm_op (last : Bool) (t : Term) :
    opEol (toRawTerm last t).op = last ∧ opAnd (toRawTerm last t).op = t.andBit ∧
    opWidth (toRawTerm last t).op = 2 ^ widthCode t.value ∧ opLt (toRawTerm last t).op = t.lt ∧
    opGt (toRawTerm last t).op = t.gt ∧ opEq (toRawTerm last t).op = t.eq ∧ (toRawTerm last t).op < 256 :=
  opByte_fields last t.andBit t.lt t.gt t.eq _ (widthCode_lt t.value)

theorem toRawTerm_width (last : Bool) (t : Term) : (toRawTerm last t).val.length = opWidth (toRawTerm last t).op := by
  rw [(toRawTerm_op last t).2.2.1, toRawTerm, beN_length]

theorem toRawTerms_cons (t : Term) (ts : List Term) :
    toRawTerms (t :: ts) = toRawTerm ts.isEmpty t :: toRawTerms ts := by
  cases ts <;> rfl

theorem toRawTerms_length (ts : List Term) : (toRawTerms ts).length = ts.length := by
  induction ts with
  | nil => rfl
  | cons t ts ih => rw [toRawTerms_cons, List.length_cons, ih, List.length_cons]

theorem toRawTerms_shape (ts : List Term) (h : ts ≠ []) : TermsShape (toRawTerms ts) := by
  fun_induction toRawTerms ts with
  | case1 => exact absurd rfl h
  | case2 t => exact ⟨(toRawTerm_op true t).1, toRawTerm_width true t⟩
  | case3 t t' ts ih => exact .cons (toRawTerm_op false t).1 (toRawTerm_width false t) (ih (by simp))

theorem toRawTerms_getElem (ts : List Term) (i : Nat) (h : i < ts.length) :
    (toRawTerms ts)[i]'(by rw [toRawTerms_length]; exact h) = toRawTerm (decide (i + 1 = ts.length)) ts[i] := by
  induction ts generalizing i with
  | nil => cases h
  | cons t ts ih =>
    simp only [toRawTerms_cons]
    cases i with
    | zero => cases ts <;> simp
    | succ j => simpa using ih j (by simpa using h)

theorem interpTerm_toRawTerm (numeric first last : Bool) (t : Term)
    (hv : t.value < 4294967296) (hf : first = true → t.andBit = false) (hn : numeric = false → t.lt = false) :
    interpTerm numeric first (toRawTerm last t) = t := by
  obtain ⟨_, hA, _, hL, hG, hE, _⟩ := toRawTerm_op last t
  have hV : rdN (toRawTerm last t).val = t.value := rdN_beN_lt (widthCode_fits t.value (by omega))
  have ha : (if first then false else t.andBit) = t.andBit := by
    cases first
    · rfl
    · exact (hf rfl).symm
  have hl : (if numeric then t.lt else false) = t.lt := by
    cases numeric
    · exact (hn rfl).symm
    · rfl
  rw [interpTerm, hA, hL, hG, hE, hV, ha, hl]

theorem map_interp_toRawTerms (numeric : Bool) (ts : List Term)
    (hv : ∀ t ∈ ts, t.value < 4294967296) (hn : ∀ t ∈ ts, numeric = false → t.lt = false) :
    (toRawTerms ts).map (interpTerm numeric false) = ts := by
  induction ts with
  | nil => rfl
  | cons t ts ih =>
    rw [toRawTerms_cons, List.map_cons,
      interpTerm_toRawTerm numeric false _ t (hv t List.mem_cons_self) nofun (hn t List.mem_cons_self),
      ih (fun x hx => hv x (List.mem_cons_of_mem _ hx)) (fun x hx => hn x (List.mem_cons_of_mem _ hx))]

theorem interpTerms_toRawTerms (numeric : Bool) (ts : List Term)
    (hv : ∀ t ∈ ts, t.value < 4294967296) (hn : ∀ t ∈ ts, numeric = false → t.lt = false)
    (hf : ∀ t ∈ ts.take 1, t.andBit = false) :
    interpTerms numeric (toRawTerms ts) = ts := by
  cases ts with
  | nil => rfl
  | cons t ts =>
    rw [toRawTerms_cons, interpTerms,
      interpTerm_toRawTerm numeric true _ t (hv t List.mem_cons_self) (fun _ => hf t (by simp)) (hn t List.mem_cons_self),
      map_interp_toRawTerms numeric ts (fun x hx => hv x (List.mem_cons_of_mem _ hx))
        (fun x hx => hn x (List.mem_cons_of_mem _ hx))]

theorem pow256 (n : Nat) : 256 ^ n = 2 ^ (n * 8) := by
  rw [Nat.mul_comm, Nat.pow_mul]

theorem patBytes_ge (bits : Nat) : bits ≤ patBytes bits * 8 := by
  simp only [patBytes]; omega

@[simp] theorem patEncode_length (bits pat : Nat) : (patEncode bits pat).length = patBytes bits := by
  simp [patEncode]

theorem patDecode_patEncode (bits pat : Nat) (h : pat < 2 ^ bits) : patDecode bits (patEncode bits pat) = pat := by
  have hge := patBytes_ge bits
  have hpos : 0 < 2 ^ (patBytes bits * 8 - bits) := Nat.pow_pos (by omega)
  have hlt : pat * 2 ^ (patBytes bits * 8 - bits) < 256 ^ patBytes bits := by
    rw [pow256]
    have : 2 ^ (patBytes bits * 8) = 2 ^ bits * 2 ^ (patBytes bits * 8 - bits) := by
      rw [← Nat.pow_add]; congr 1; omega
    rw [this]
    exact Nat.mul_lt_mul_of_pos_right h hpos
  simp only [patDecode, patEncode]
  rw [rdN_beN_lt hlt, Nat.mul_div_cancel _ hpos]

theorem toRaw_ty (c : Comp) : (toRaw c).ty = c.ty := by cases c <;> rfl
theorem interp_ty (v6 : Bool) (c : RawComp) : (interp v6 c).ty = c.ty := by cases c <;> rfl

theorem kindOf_big (v6 : Bool) (t : Nat) (h : 14 ≤ t) : kindOf v6 t = none := by
  unfold kindOf
  rw [if_neg (by omega), if_neg (by omega), if_neg (by omega), if_neg (by omega)]

theorem kindOf_isSome (v6 : Bool) (t : Nat) :
    (kindOf v6 t).isSome = true ↔ (1 ≤ t ∧ t ≤ 12) ∨ (t = 13 ∧ v6 = true) := by
  -- below 14 `kindOf` is a table of 14 rows per family; above, nothing is defined
  by_cases h : t < 14
  · exact (by decide : ∀ v6, ∀ t < 14, (kindOf v6 t).isSome = true ↔ (1 ≤ t ∧ t ≤ 12) ∨ (t = 13 ∧ v6 = true)) v6 t h
  · rw [kindOf_big v6 t (by omega)]
    exact ⟨nofun, by omega⟩

theorem kindOf_prefix_iff (v6 : Bool) (t : Nat) : kindOf v6 t = some .prefix ↔ t = 1 ∨ t = 2 := by
  fun_cases kindOf v6 t <;> simp [*]

theorem kindOf_ops_range (v6 : Bool) (t : Nat) (h : kindOf v6 t = some .numeric ∨ kindOf v6 t = some .bitmask) :
    3 ≤ t ∧ t ≤ 13 := by
  have hs : (kindOf v6 t).isSome = true := by rcases h with h | h <;> rw [h] <;> rfl
  have hp : ¬ (t = 1 ∨ t = 2) := fun hp => by rw [(kindOf_prefix_iff v6 t).2 hp] at h; simp at h
  have := (kindOf_isSome v6 t).1 hs
  omega

theorem toRaw_shape (v6 : Bool) (c : Comp) (h : WFComp v6 c) : CompShape v6 rfcP6 (toRaw c) := by
  cases c with
  | prefix4 ty len pat =>
    obtain ⟨hv, hty, hlen, _⟩ := h
    exact ⟨hv, (kindOf_prefix_iff v6 ty).2 hty, hlen, by simp⟩
  | prefix6 ty len off pat =>
    obtain ⟨hv, hty, hok, _⟩ := h
    exact ⟨hv, (kindOf_prefix_iff v6 ty).2 hty, len - off, by simp [rfcP6, hok], by simp⟩
  | ops ty ts =>
    obtain ⟨hk, hne, _, _⟩ := h
    exact ⟨hk, toRawTerms_shape ts hne⟩

theorem interp_toRaw (v6 : Bool) (c : Comp) (h : WFComp v6 c) : interp v6 (toRaw c) = c := by
  cases c with
  | prefix4 ty len pat =>
    obtain ⟨_, _, _, hp⟩ := h
    simp only [toRaw, interp, patDecode_patEncode len pat hp]
  | prefix6 ty len off pat =>
    obtain ⟨_, _, _, hp⟩ := h
    simp only [toRaw, interp, patDecode_patEncode (len - off) pat hp]
  | ops ty ts =>
    obtain ⟨_, _, hwf, hfirst⟩ := h
    simp only [toRaw, interp]
    rw [interpTerms_toRawTerms _ ts (fun t ht => maxWidth_bound ty _ (hwf t ht).1) (fun t ht => (hwf t ht).2) hfirst]

theorem map_toRaw_ty (r : Rule) : (r.map toRaw).map RawComp.ty = r.map Comp.ty := by
  simp [List.map_map, Function.comp_def, toRaw_ty]

theorem decodeRaw_encodeFlow (v6 : Bool) (r : Rule) (h : ∀ c ∈ r, WFComp v6 c) :
    decodeRaw v6 (encodeFlow r) = .ok (r.map toRaw) := by
  simp only [decodeRaw, encodeFlow]
  apply decodeComps_complete
  · intro c hc
    obtain ⟨c', hc', rfl⟩ := List.mem_map.1 hc
    exact toRaw_shape v6 c' (h c' hc')
  · omega

theorem map_interp_toRaw (v6 : Bool) (r : Rule) (h : ∀ c ∈ r, WFComp v6 c) : (r.map toRaw).map (interp v6) = r := by
  rw [List.map_map]
  exact (List.map_congr_left fun c hc => interp_toRaw v6 c (h c hc)).trans (List.map_id r)

theorem ascending_iff (l : List Nat) : ascending l = true ↔ l.Pairwise (· < ·) := by
  fun_induction ascending l with
  | case1 => simp
  | case2 => simp
  | case3 a b t ih =>
    rw [Bool.and_eq_true, decide_eq_true_eq, ih, List.pairwise_cons (a := a)]
    refine ⟨fun ⟨hab, h⟩ => ⟨fun x hx => ?_, h⟩, fun ⟨h1, h2⟩ => ⟨h1 b List.mem_cons_self, h2⟩⟩
    rcases List.mem_cons.1 hx with rfl | hx
    · exact hab
    · exact Nat.lt_trans hab ((List.pairwise_cons.1 h).1 x hx)

theorem decodeFlow_sound (v6 : Bool) (bs : Bytes) (r : Rule) (h : decodeFlow v6 bs = .ok r) :
    ∃ rc, bs = encodeRaw rc ∧ (∀ c ∈ rc, CompShape v6 rfcP6 c) ∧ ascending (rc.map RawComp.ty) = true ∧
      r = rc.map (interp v6) := by
  revert h
  fun_cases decodeFlow v6 bs with
  | case2 rc hrc ha =>
    intro h; cases h
    obtain ⟨e1, e2⟩ := decodeComps_sound _ _ _ _ _ hrc
    exact ⟨rc, e1, e2, ha, rfl⟩
  | _ => nofun

theorem decodeFlow_prefix_error (v6 : Bool) (pre : List RawComp) (tail : Bytes) (e : Err)
    (hpre : ∀ c ∈ pre, CompShape v6 rfcP6 c)
    (ht : ∀ f, tail.length < f → decodeComps v6 rfcP6 f tail = .error e) :
    decodeFlow v6 (encodeRaw pre ++ tail) = .error e := by
  simp only [decodeFlow, decodeRaw, decodeComps_append v6 rfcP6 pre tail (.error e) hpre ht _ (Nat.lt_succ_self _), Except.map]

/-- the length field `lp` announces `n` payload bytes (RFC 8955 §4.1), `hi` as in `splitNlri` -/
def LenField (hi : Nat → Nat) (lp : Bytes) (n : Nat) : Prop :=
  (∃ b, lp = [b] ∧ b / 16 % 16 ≠ 15 ∧ n = b) ∨ (∃ b c, lp = [b, c] ∧ b / 16 % 16 = 15 ∧ n = hi (b % 16) + c)

theorem lengthPrefix_small (n : Nat) (h : n < 240) : lengthPrefix n = [n] := by simp [lengthPrefix, h]
theorem lengthPrefix_big (n : Nat) (h : 240 ≤ n) : lengthPrefix n = [240 + n / 256, n % 256] := by
  simp [lengthPrefix]; omega

theorem twoOctet_arith (n : Nat) (h240 : 240 ≤ n) (h : n < 4096) :
    240 + n / 256 < 256 ∧ (240 + n / 256) / 16 % 16 = 15 ∧ (240 + n / 256) % 16 * 256 + n % 256 = n :=
  ⟨by omega, by omega, by omega⟩

theorem wf_lengthPrefix (n : Nat) (h : n < 4096) : WFBytes (lengthPrefix n) := by
  fun_cases lengthPrefix n
  case case1 hn => exact wfBytes_cons (by omega) wfBytes_nil
  case case2 hn =>
    exact wfBytes_cons (twoOctet_arith n (by omega) h).1 (wfBytes_cons (Nat.mod_lt _ (by decide)) wfBytes_nil)

theorem lenField_lengthPrefix (n : Nat) (h : n < 4096) : LenField rfcHi (lengthPrefix n) n := by
  fun_cases lengthPrefix n
  case case1 hn => exact .inl ⟨n, rfl, by omega, rfl⟩
  case case2 hn =>
    obtain ⟨_, h15, hn'⟩ := twoOctet_arith n (by omega) h
    exact .inr ⟨_, _, rfl, h15, hn'.symm⟩

theorem splitNlri_lenField (hi : Nat → Nat) (lp : Bytes) (n : Nat) (h : LenField hi lp n) (body : Bytes) :
    splitNlri hi (lp ++ body) =
      if body.length < n then .error .lengthShort else .ok (body.take n, body.drop n) := by
  rcases h with ⟨b, rfl, hb, rfl⟩ | ⟨b, c, rfl, hb, rfl⟩
  · simp only [List.cons_append, List.nil_append, splitNlri, if_neg hb]
  · simp only [List.cons_append, List.nil_append, splitNlri, if_pos hb]

theorem splitNlri_encode (p rest : Bytes) (h : p.length < 4096) :
    splitNlri rfcHi (lengthPrefix p.length ++ p ++ rest) = .ok (p, rest) := by
  rw [List.append_assoc, splitNlri_lenField _ _ _ (lenField_lengthPrefix _ h), if_neg (by simp),
    List.take_left, List.drop_left]

theorem splitNlri_sound (hi : Nat → Nat) (bs p rest : Bytes) (h : splitNlri hi bs = .ok (p, rest)) :
    ∃ lp, bs = lp ++ p ++ rest ∧ LenField hi lp p.length := by
  revert h
  fun_cases splitNlri hi bs with
  | case4 b hb c t2 n hlen =>
    intro h; cases h
    exact ⟨[b, c], by simp, .inr ⟨b, c, rfl, hb, by simp only [List.length_take]; omega⟩⟩
  | case6 b t hb hlen =>
    intro h; cases h
    exact ⟨[b], by simp, .inl ⟨b, rfl, hb, by simp only [List.length_take]; omega⟩⟩
  | _ => nofun

/-- the two flow-vpn branches of `decodeNlri` read as one -/
theorem decodeNlri_eq (v6 vpn : Bool) (bs : Bytes) :
    decodeNlri v6 vpn bs =
      match splitNlri rfcHi bs with
      | .error e => .error e
      | .ok (payload, rest) =>
        if vpn = true ∧ payload.length < 8 then .error .rdShort
        else
          match decodeFlow v6 (if vpn then payload.drop 8 else payload) with
          | .error e => .error e
          | .ok r => .ok (⟨if vpn then some (payload.take 8) else none, r⟩, rest) := by
  cases vpn <;> simp only [decodeNlri, Bool.false_eq_true, if_false, if_true, false_and, true_and] <;> rfl

theorem decodeNlri_ok {v6 vpn : Bool} {bs : Bytes} {x : Nlri} {rest : Bytes}
    (h : decodeNlri v6 vpn bs = .ok (x, rest)) :
    ∃ payload, splitNlri rfcHi bs = .ok (payload, rest) ∧ ¬ (vpn = true ∧ payload.length < 8) ∧
      x.rd = (if vpn then some (payload.take 8) else none) ∧
      decodeFlow v6 (if vpn then payload.drop 8 else payload) = .ok x.rule := by
  revert h
  fun_cases decodeNlri v6 vpn bs with
  | case4 payload _ hsplit hvpn hlen r hr =>
    intro h; cases h
    exact ⟨payload, hsplit, fun h => hlen h.2, by rw [if_pos hvpn], by rw [if_pos hvpn]; exact hr⟩
  | case6 payload _ hsplit hvpn r hr =>
    intro h; cases h
    exact ⟨payload, hsplit, fun h => hvpn h.1, by rw [if_neg hvpn], by rw [if_neg hvpn]; exact hr⟩
  | _ => nofun

/-- the reference reader applies `rdN` to the very bytes `beN` wrote, and masks the flag octet -/
theorem action_roundtrip (a : Action) (h : WFAction a) : decodeAction (encodeAction a) = some a := by
  cases a with
  | rateBytes asn f =>
    show some (Action.rateBytes (rdN (beN 2 asn)) (rdN (beN 4 f))) = _
    rw [rdN_beN_lt h.1, rdN_beN_lt h.2]
  | ratePackets asn f =>
    show some (Action.ratePackets (rdN (beN 2 asn)) (rdN (beN 4 f))) = _
    rw [rdN_beN_lt h.1, rdN_beN_lt h.2]
  | trafficAction s t => cases s <;> cases t <;> rfl
  | redirectAS2 asn nn =>
    show some (Action.redirectAS2 (rdN (beN 2 asn)) (rdN (beN 4 nn))) = _
    rw [rdN_beN_lt h.1, rdN_beN_lt h.2]
  | redirectIP4 ip nn =>
    show some (Action.redirectIP4 (rdN (beN 4 ip)) (rdN (beN 2 nn))) = _
    rw [rdN_beN_lt h.1, rdN_beN_lt h.2]
  | redirectAS4 asn nn =>
    show some (Action.redirectAS4 (rdN (beN 4 asn)) (rdN (beN 2 nn))) = _
    rw [rdN_beN_lt h.1, rdN_beN_lt h.2]
  | mark d =>
    show some (Action.mark (d % 64)) = _
    rw [Nat.mod_eq_of_lt h]
  | nexthopSimpson c => cases c <;> rfl
  | nexthopIetf4 ip c =>
    show some (Action.nexthopIetf4 (rdN (beN 4 ip)) (decide (b2n c % 2 = 1))) = _
    rw [rdN_beN_lt h]; cases c <;> rfl

theorem action_length (a : Action) : (encodeAction a).length = 8 := by
  cases a <;> rfl

theorem action_wf (a : Action) (h : WFAction a) : WFBytes (encodeAction a) := by
  cases a with
  | rateBytes _ _ | ratePackets _ _ | redirectAS2 _ _ | redirectIP4 _ _ | redirectAS4 _ _ =>
    exact wfBytes_append (wfBytes_append (by decide) (wf_beN _ _)) (wf_beN _ _)
  | trafficAction s t => cases s <;> cases t <;> decide
  | mark d =>
    simp only [WFAction] at h
    intro b hb; simp [encodeAction] at hb; omega
  | nexthopSimpson c => cases c <;> decide
  | nexthopIetf4 ip c =>
    refine wfBytes_append (wfBytes_append (by decide) (wf_beN _ _)) ?_
    cases c <;> decide

end Exa.Flow
