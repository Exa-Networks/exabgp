import ExaModel.Lemmas.WireCount
/-! Byte accounting of an attribute value, of one TLV, of the attribute walk and of the whole UPDATE. -/
namespace Exa.Wire
open Exa

theorem decVal_len (p : Params) (code : Nat) (v : Bytes) (val : AttrVal) (h : decVal p code v = .ok val) :
    (encVal p val).length = v.length := by
  revert h
  fun_cases decVal p code v <;> intro h
  case case24 => exact decMpReach_len p v val h  -- code 14: MP_REACH_NLRI
  case case25 => exact decMpUnreach_len p v val h  -- code 15: MP_UNREACH_NLRI
  all_goals cases h
  case case4 hd | case28 hd => exact decSegs_len _ _ _ _ hd  -- codes 2, 17: AS_PATH, AS4_PATH
  case case19 c | case23 c => exact (decU32s_len v (by omega)).2  -- codes 8, 10: COMMUNITIES, CLUSTER_LIST
  case case27 c =>  -- code 16: EXTENDED COMMUNITIES
    have l := decU32s_len v (by omega)
    simp only [encVal, encAsns_true_length, flat2_unflat2_length (decU32s v) (by omega)] at l ⊢
    exact l.2
  case case33 c =>  -- code 32: LARGE_COMMUNITY
    have l := decU32s_len v (by omega)
    simp only [encVal, encAsns_true_length, flat3_unflat3_length (decU32s v) (by omega)] at l ⊢
    exact l.2
  -- code 7: AGGREGATOR with a 4-byte, then with a 2-byte AS number
  case case15 ha c => rw [encVal, encAsn, ha]; exact (Decidable.not_not.1 c).symm
  case case17 ha c => rw [encVal, encAsn, if_neg ha]; exact (Decidable.not_not.1 c).symm
  case case34 => rfl  -- an unrecognised code: the bytes as they are
  -- what is left are the values of fixed length: the length check passed
  all_goals exact (Decidable.not_not.1 ‹¬ v.length ≠ _›).symm

theorem decLen_len (ext : Bool) (r : Bytes) (len : Nat) (body : Bytes) (h : decLen ext r = some (len, body)) :
    r.length = (if ext then 2 else 1) + body.length := by
  revert h
  fun_cases decLen ext r <;> intro h <;> cases h
  · rename_i he c
    rw [if_pos he, List.length_drop]; omega
  · rename_i he
    rw [if_neg he, List.length_cons]; omega

theorem decAttr_len (p : Params) (bs : Bytes) (a : Attr) (rest : Bytes) (h : decAttr p bs = .ok (a, rest)) :
    bs.length = (encAttr p a).length + rest.length := by
  obtain ⟨fb, code, r, len, body, rfl, hd, hl, _, hv, hfl, rfl⟩ := decAttr_ok p bs a rest h
  have l1 := decLen_len _ _ _ _ hd
  have l2 := decVal_len p code _ a.val hv
  simp only [encAttr, List.length_cons, List.length_append, encLen_length, l2, List.length_take,
    List.length_drop, hfl] at l1 ⊢
  omega

theorem decAttrs_len (p : Params) (fuel : Nat) (bs : Bytes) (as : List Attr)
    (h : decAttrs p fuel bs = .ok as) : (encAttrs p as).length = bs.length := by
  rw [decAttrs_eq_walk] at h
  rw [encAttrs_eq_flatMap]
  exact walk_len _ (decAttr_len p) fuel bs as h

theorem decodeRaw_length (p : Params) (bs : Bytes) (u : UpdateSem) (h : decodeRaw p bs = .ok u) :
    (encodeUpdate p u).length = bs.length := by
  obtain ⟨hl, hw, ha, hn⟩ := decodeRaw_ok p bs u h
  have l1 := decNlris_len _ _ _ _ _ _ _ hw
  have l2 := decAttrs_len _ _ _ _ ha
  have l3 := decNlris_len _ _ _ _ _ _ _ hn
  simp only [List.length_take, List.length_drop] at l1 l2 l3
  simp only [encodeUpdate, List.length_append, be16_length, l1, l2, l3]
  omega

end Exa.Wire
