/-
  M-Attr7606, message level: the loop lemmas lifted to `decodeWith` (`decode_malformed`, `decode_overrun`), what
  `assemble` does with the marker, what can end the parsing of an attribute block (`parseBlock_fail`), the
  property as a predicate on one body (`C08Holds`) and how a `decide`d witness refutes it (`not_c08_of`).
-/
import ExaModel.Lemmas.Attr7606Loop

namespace Exa.Attr7606
open Exa Exa.Wire
open Exa.Generated.AttrTable (Row)

theorem postLoop_marked (asn4 cut : Bool) (st : LoopSt) (h : st.taw = true) :
    (postLoop asn4 { st with taw := st.taw || cut }).taw = true := by
  simp [postLoop, h]

theorem postLoop_kept_congr (asn4 : Bool) (a b : LoopSt) (hk : a.kept = b.kept) (ht : a.taw = b.taw) :
    (postLoop asn4 a).kept = (postLoop asn4 b).kept := by
  unfold postLoop
  rw [ht, hk]
  split
  · exact hk
  · split <;> rfl

theorem decodeParts_block {fx : Fix} {tb : List Row} {xp : XP} {body : Bytes} {pt : Parts}
    (h : decodeParts fx tb xp body = .ok pt) : parseBlock fx tb xp (blockOf body) = .ok pt.st := by
  revert h
  fun_cases decodeParts fx tb xp body <;> intro h <;> cases h
  simp only [blockOf, *]

theorem assemble_attrs (pt : Parts) : (assemble pt).attrs = reportedAttrs pt.st := by
  unfold assemble; split <;> rfl

theorem assemble_taw (pt : Parts) : (assemble pt).taw = pt.st.taw := by
  unfold assemble; split <;> rfl

theorem assemble_withdraws (pt : Parts) (ht : pt.st.taw = true) :
    (assemble pt).announce = [] ∧ ∀ r ∈ pt.nlri, r ∈ (assemble pt).withdraw := by
  simp only [assemble, ht, if_true, true_and]
  intro r hr
  exact List.mem_append_right _ hr

theorem decodeWith_ok {fx : Fix} {tb : List Row} {xp : XP} {body : Bytes} {rep : Rep}
    (h : decodeWith fx tb xp body = .ok rep) :
    rep = emptyRep ∨ ∃ pt, decodeParts fx tb xp body = .ok pt ∧ rep = assemble pt := by
  revert h
  fun_cases decodeWith fx tb xp body <;> intro h <;> cases h
  · exact .inl rfl
  · exact .inr ⟨_, ‹_›, rfl⟩

theorem decodeParts_loop {fx : Fix} {tb : List Row} {xp : XP} {body : Bytes} {pt : Parts}
    (h : decodeParts fx tb xp body = .ok pt) :
    ∃ s1, loop fx tb xp (occurrences body) initSt = .ok s1 ∧
      pt.st = postLoop xp.p.asn4 { s1 with taw := s1.taw || cutOf (blockOf body) } := by
  have hb := decodeParts_block h
  unfold parseBlock blockAttrs at hb
  split at hb
  · cases hb
  · next s1 hl => exact ⟨s1, hl, (Except.ok.inj hb).symm⟩

/-- The message-level statement for any combination of repairs and any table with the row properties. -/
theorem decode_malformed {fx : Fix} {tb : List Row} {xp : XP} {body : Bytes} {rep : Rep} (htb : TableOk tb)
    (h : decodeWith fx tb xp body = .ok rep)
    (pre : List Tlv) (t : Tlv) (post : List Tlv) (hocc : occurrences body = pre ++ t :: post)
    (hfirst : ∀ u ∈ pre, u.code ≠ t.code) (hm : malformed xp.p t = true) (hg : GapFree fx xp t) :
    rep = emptyRep ∨
    (rep.announce = [] ∧ ∃ pt, decodeParts fx tb xp body = .ok pt ∧ ∀ r ∈ pt.nlri, r ∈ rep.withdraw) ∨
    (rfc7606Class t.code = some .discard ∧
      ∃ st', blockAttrs fx tb xp (pre ++ post) (cutOf (blockOf body)) = .ok st' ∧ rep.attrs = reportedAttrs st') := by
  refine (decodeWith_ok h).imp_right fun ⟨pt, hp, hr⟩ => ?_
  obtain ⟨s1, hl, hst⟩ := decodeParts_loop hp
  rw [hocc] at hl
  rcases loop_malformed htb pre t post initSt s1 hl hfirst (fun _ h => nomatch h) hm hg with
    htaw | ⟨hcls, s1', hl', hk, ht⟩
  · have hw := assemble_withdraws pt (hst ▸ postLoop_marked _ _ s1 htaw)
    exact .inl ⟨hr ▸ hw.1, pt, hp, hr ▸ hw.2⟩
  · refine .inr ⟨hcls, postLoop xp.p.asn4 { s1' with taw := s1'.taw || cutOf (blockOf body) }, ?_, ?_⟩
    · simp [blockAttrs, hl']
    · rw [hr, assemble_attrs, hst]
      exact congrArg (List.filter _) (postLoop_kept_congr _ _ _ hk.symm (congrArg (· || _) ht.symm))

/-- The codes whose value decoder can raise ValueError (`valOutcome_range`). -/
def valueErrorCodes : List Nat := [1, 3, 4, 5, 6, 7, 9, 10, 18]

theorem valOutcome_not_spec (fx : Fix) (xp : XP) (code : Nat) (v : Bytes) (hc : code ∉ specCodes) :
    valOutcome fx xp code v = .unmodelled := by
  simp only [specCodes, List.mem_cons, List.mem_nil_iff, or_false, not_or] at hc
  simp [valOutcome, hc]

/-- What a value decoder may return: a ValueError only for the codes of `valueErrorCodes`, a Notify only as an
    UPDATE Message Error. -/
def VOutOk (code : Nat) : VOut → Prop
  | .valueError => code ∈ valueErrorCodes
  | .notify c _ => c = 3
  | _ => True

theorem valOutcome_range (fx : Fix) (xp : XP) (code : Nat) (v : Bytes) : VOutOk code (valOutcome fx xp code v) := by
  fun_cases valOutcome fx xp code v
  case case19 => fun_cases exaMpReach xp v <;> simp only [VOutOk]  -- code 14: MP_REACH_NLRI fails by Notify 3/_ only
  case case20 => fun_cases exaMpUnreach xp v <;> simp only [VOutOk]  -- code 15: MP_UNREACH_NLRI likewise
  case case9 h _ => show code ∈ valueErrorCodes; rcases h with rfl | rfl | rfl <;> decide  -- codes 4, 5, 9, wrong length
  -- every other leaf is a literal: `ok`, `unmodelled` and Notify 3/_ are settled by the equations of `VOutOk`, which
  -- leave the ValueError leaves, each under a literal code of the list
  all_goals simp only [VOutOk] <;> (subst code; decide)

/-- The table property that keeps ValueError inside `parse`. -/
def ValueErrClassed (tb : List Row) : Prop :=
  ∀ r ∈ tb, r.id ∈ valueErrorCodes → r.treatAsWithdraw = true ∨ r.discard = true

instance (tb : List Row) : Decidable (ValueErrClassed tb) := by unfold ValueErrClassed; exact inferInstance

/-- What can leave one turn of the loop. -/
def FailOk : Fail → Prop
  | .notify c _ => c = 3
  | .raise => False
  | .unmodelled => True

def DecFailOk : Dec → Prop
  | .notify c _ => c = 3
  | .raise => False
  | _ => True

theorem decide1_fail {fx : Fix} {tb : List Row} {xp : XP} (hv : ValueErrClassed tb) (present : List Nat) (t : Tlv) :
    DecFailOk (decide1 fx tb xp present t) := by
  have hr := valOutcome_range fx xp t.code t.val
  fun_cases decide1 fx tb xp present t
  -- only the two leaves that pass an error of the value decoder on are not literals
  case case11 row hrow _ _ _ hvo hw hd =>  -- ValueError under a row with neither class flag: `raise`
    rw [hvo] at hr
    obtain ⟨hrmem, hrid⟩ := rowOf_some hrow
    exact (hv row hrmem (hrid ▸ hr)).elim hw hd
  case case14 hvo _ _ => rw [hvo] at hr; exact hr  -- the decoder's Notify under such a row
  all_goals trivial

theorem applyDec_error {tb : List Row} {t : Tlv} {st : LoopSt} {d : Dec} {e : Fail}
    (h : applyDec tb t st d = .error e) (hd : DecFailOk d) : FailOk e := by
  cases d <;> cases h <;> exact hd

theorem loop_fail {fx : Fix} {tb : List Row} {xp : XP} (hv : ValueErrClassed tb) (ts : List Tlv) (st : LoopSt)
    (e : Fail) (h : loop fx tb xp ts st = .error e) : FailOk e := by
  fun_induction loop fx tb xp ts st
  case case1 => cases h
  case case2 ih => exact ih h
  case case3 ha => cases h; exact applyDec_error ha (decide1_fail hv _ _)

/-- Whatever ends the parsing of an attribute block is an UPDATE Message Error NOTIFICATION (code 3) —
    or lies outside the model. -/
theorem parseBlock_fail {fx : Fix} {tb : List Row} {xp : XP} (hv : ValueErrClassed tb) (blk : Bytes) (e : Fail)
    (h : parseBlock fx tb xp blk = .error e) : FailOk e := by
  revert h
  unfold parseBlock
  fun_cases blockAttrs fx tb xp (tlvsOf blk) (cutOf blk) <;> intro h <;> cases h
  exact loop_fail hv _ _ _ ‹_›

theorem loop_overrun {fx : Fix} {tb : List Row} {xp : XP}
    (pre : List Tlv) (t : Tlv) (post : List Tlv) (st0 st : LoopSt)
    (h : loop fx tb xp (pre ++ t :: post) st0 = .ok st) (ho : t.overrun = true) : st.taw = true := by
  obtain ⟨s1, _, h⟩ := loop_append_ok h
  rw [loop, decide1_overrun fx tb xp _ t ho] at h
  exact loop_taw_mono fx tb xp post _ st h rfl

theorem decode_overrun {fx : Fix} {tb : List Row} {xp : XP} {body : Bytes} {rep : Rep}
    (h : decodeWith fx tb xp body = .ok rep) (t : Tlv) (ht : t ∈ occurrences body) (ho : t.overrun = true) :
    rep = emptyRep ∨ (rep.taw = true ∧ rep.announce = []) := by
  refine (decodeWith_ok h).imp_right fun ⟨pt, hp, hr⟩ => ?_
  obtain ⟨s1, hl, hst⟩ := decodeParts_loop hp
  obtain ⟨pre, post, hsplit⟩ := List.append_of_mem ht
  rw [hsplit] at hl
  have htw : pt.st.taw = true := hst ▸ postLoop_marked _ _ s1 (loop_overrun pre t post initSt s1 hl ho)
  rw [hr, assemble_taw]
  exact ⟨htw, (assemble_withdraws pt htw).1⟩

/-- Only the AS_PATH / AS4_PATH decoders depend on the open repair. -/
theorem gapFree_of_not_aspath (fx : Fix) (xp : XP) (t : Tlv) (h2 : t.code ≠ 2) (h17 : t.code ≠ 17) : GapFree fx xp t := by
  unfold GapFree valOutcome
  rw [if_neg h2, if_neg h17, if_neg h2, if_neg h17]
  exact id

/-- The statement of C08 for one UPDATE body under repairs `fx`, table `tb`, session `xp`: whenever the body
    decodes to an UpdateCollection, every RFC-malformed first occurrence of an attribute in it is answered by
    treat-as-withdraw (nothing announced, every route the UPDATE carries reported withdrawn) or — for an
    attribute of the discard class only — by dropping that attribute and reporting exactly the attributes the
    same block has without it. (`emptyRep`: the End-of-RIB fast paths, which announce nothing.) -/
def C08Holds (fx : Fix) (tb : List Row) (xp : XP) (body : Bytes) : Prop :=
  ∀ (rep : Rep) (pre : List Tlv) (t : Tlv) (post : List Tlv),
    decodeWith fx tb xp body = .ok rep → occurrences body = pre ++ t :: post →
    (∀ u ∈ pre, u.code ≠ t.code) → malformed xp.p t = true →
    rep = emptyRep ∨
    (rep.announce = [] ∧ ∃ pt, decodeParts fx tb xp body = .ok pt ∧ ∀ r ∈ pt.nlri, r ∈ rep.withdraw) ∨
    (rfc7606Class t.code = some .discard ∧
      ∃ st', blockAttrs fx tb xp (pre ++ post) (cutOf (blockOf body)) = .ok st' ∧ rep.attrs = reportedAttrs st')

/-- the result is an UpdateCollection with property `P` -/
def okAnd (P : Rep → Bool) : Except Fail Rep → Bool
  | .ok r => P r
  | .error _ => false

theorem okAnd_spec {P : Rep → Bool} {x : Except Fail Rep} (h : okAnd P x = true) : ∃ rep, x = .ok rep ∧ P rep = true := by
  cases x with
  | ok r => exact ⟨r, rfl, h⟩
  | error e => simp [okAnd] at h

/-- A body refutes the statement when it decodes to an UpdateCollection that announces something although a
    malformed first occurrence of a non-discard class is in it. -/
theorem not_c08_of {fx : Fix} {tb : List Row} {xp : XP} {body : Bytes} (pre : List Tlv) (t : Tlv) (post : List Tlv)
    (hocc : occurrences body = pre ++ t :: post) (hfirst : pre.all (fun u => u.code != t.code) = true)
    (hm : malformed xp.p t = true) (hcls : (rfc7606Class t.code == some .discard) = false)
    (hann : okAnd (fun r => !r.announce.isEmpty) (decodeWith fx tb xp body) = true) : ¬ C08Holds fx tb xp body := by
  intro hc
  obtain ⟨rep, hrep, hP⟩ := okAnd_spec hann
  have hf : ∀ u ∈ pre, u.code ≠ t.code := fun u hu => by simpa using List.all_eq_true.1 hfirst u hu
  have hne : rep.announce ≠ [] := by
    intro h0; rw [h0] at hP; simp at hP
  rcases hc rep pre t post hrep hocc hf hm with h | ⟨h, _⟩ | ⟨h, _⟩
  · rw [h] at hne; exact hne rfl
  · exact hne h
  · rw [h] at hcls; simp at hcls

end Exa.Attr7606
