import ExaModel.Model.Pack
/-! Basic facts about M-Pack: sizes, `attrLen`, `splitGroup`. -/
namespace Exa.Pack

@[simp] theorem sz_nil : sz [] = 0 := rfl
@[simp] theorem sz_cons (x : Nlri) (xs : List Nlri) : sz (x :: xs) = x.size + sz xs := rfl

@[simp] theorem sz_append (a b : List Nlri) : sz (a ++ b) = sz a + sz b := by
  induction a with
  | nil => simp
  | cons x xs ih => simp [ih]; omega

theorem sz_single (x : Nlri) : sz [x] = x.size := by simp

/-- every item has a positive packed length (a prefix is at least its mask byte) -/
def Pos (l : List Nlri) : Prop := ∀ x ∈ l, 0 < x.size

instance (l : List Nlri) : Decidable (Pos l) := by unfold Pos; exact inferInstance

theorem sz_eq_zero_of_pos {l : List Nlri} (h : Pos l) : sz l = 0 ↔ l = [] := by
  cases l with
  | nil => simp
  | cons x xs =>
    have := h x (by simp)
    simp; omega

theorem attrLen_mono {a b : Nat} (h : a ≤ b) : attrLen a ≤ attrLen b := by
  unfold attrLen; split <;> split <;> omega

theorem attrLen_pos (n : Nat) : 3 ≤ attrLen n := by
  unfold attrLen; split <;> omega

theorem attrLen_ge (n : Nat) : n + 3 ≤ attrLen n := by
  unfold attrLen; split <;> omega

theorem wire_eq (a : Mp) : a.wire = attrLen a.payload := by
  unfold Mp.wire attrLen hdrLen; split <;> omega

def oitems : Option Mp → List Nlri
  | none => []
  | some r => r.items

@[simp] theorem oitems_none : oitems none = [] := rfl
@[simp] theorem oitems_some (r : Mp) : oitems (some r) = r.items := rfl
@[simp] theorem owire_none : owire none = 0 := rfl
@[simp] theorem owire_some (r : Mp) : owire (some r) = r.wire := rfl

theorem mem_oitems {o : Option Mp} {x : Nlri} : x ∈ oitems o ↔ ∃ r, o = some r ∧ x ∈ r.items := by
  cases o <;> simp

theorem annsOf_eq (m : Msg) : m.annsOf = m.ann4 ++ oitems m.reach := by
  unfold Msg.annsOf; cases m.reach <;> rfl
theorem wdsOf_eq (m : Msg) : m.wdsOf = m.wd4 ++ oitems m.unreach := by
  unfold Msg.wdsOf; cases m.unreach <;> rfl

@[simp] theorem mkMsg_wd4 (attr w u b r a) : (mkMsg attr w u b r a).wd4 = w := rfl
@[simp] theorem mkMsg_ann4 (attr w u b r a) : (mkMsg attr w u b r a).ann4 = a := rfl
@[simp] theorem mkMsg_reach (attr w u b r a) : (mkMsg attr w u b r a).reach = r := rfl
@[simp] theorem mkMsg_unreach (attr w u b r a) : (mkMsg attr w u b r a).unreach = u := rfl
@[simp] theorem mkMsg_attrs (attr w u b r a) : (mkMsg attr w u b r a).attrs = b := rfl

theorem mkMsg_len_le (attr w u b r a) :
    (mkMsg attr w u b r a).len ≤ 23 + attr + (sz w + sz a + owire u + owire r) := by
  unfold mkMsg; simp only; split <;> omega

theorem mkMsg_len_attr (attr w u r a) :
    (mkMsg attr w u true r a).len = 23 + attr + (sz w + sz a + owire u + owire r) := by
  unfold mkMsg; simp only [if_true]; omega

theorem splitGroup_chunk (maxi hdr : Nat) (xs cur : List Nlri) (hc : sz cur = 0 ∨ attrLen (hdr + sz cur) ≤ maxi) :
    ∀ it ∈ splitGroup maxi hdr xs cur, 0 < sz it ∧ attrLen (hdr + sz it) ≤ maxi := by
  fun_induction splitGroup maxi hdr xs cur
  case case1 hpos =>
    intro it hit
    obtain rfl := List.mem_singleton.1 hit
    exact ⟨hpos, hc.resolve_left (by omega)⟩
  case case2 => nofun
  case case3 ih => exact ih hc
  case case4 x _ cur hx hbig ih =>
    intro it hit
    rcases List.mem_cons.1 hit with rfl | h
    · -- `x` fits alone and not after `it`: `it` is not empty
      have hpos : 0 < sz it := Nat.pos_of_ne_zero fun h0 => hx (by rwa [h0, Nat.add_zero] at hbig)
      exact ⟨hpos, hc.resolve_left (by omega)⟩
    · exact ih (.inr (by simpa using Nat.le_of_not_gt hx)) it h
  case case5 hfit ih => exact ih (.inr (by simpa [Nat.add_assoc] using Nat.le_of_not_gt hfit))

/-- The loop only cuts; `t` is what is in hand at the end when it has no byte, which is not yielded. -/
theorem splitGroup_flatten (maxi hdr : Nat) (xs cur : List Nlri) : ∃ t, sz t = 0 ∧
    (splitGroup maxi hdr xs cur).flatten ++ t
      = cur ++ xs.filter (fun x => decide (attrLen (hdr + x.size) ≤ maxi)) := by
  fun_induction splitGroup maxi hdr xs cur
  case case1 => exact ⟨[], rfl, by simp⟩
  case case2 cur _ => exact ⟨cur, by omega, by simp⟩
  case case3 hbig ih => exact ih.imp fun t ⟨ht, e⟩ => ⟨ht, by simp [e, Nat.not_le.2 hbig]⟩
  case case4 hfit _ ih => exact ih.imp fun t ⟨ht, e⟩ => ⟨ht, by simp [e, Nat.le_of_not_gt hfit]⟩
  case case5 hfit _ ih => exact ih.imp fun t ⟨ht, e⟩ => ⟨ht, by simp [e, Nat.le_of_not_gt hfit]⟩

theorem size_le_sz {x : Nlri} : ∀ {l : List Nlri}, x ∈ l → x.size ≤ sz l
  | _ :: _, .head _ => Nat.le_add_right ..
  | _ :: _, .tail _ h => Nat.le_trans (size_le_sz h) (Nat.le_add_left ..)

theorem mem_of_tail {l t target : List Nlri} (e : l ++ t = target) (ht : sz t = 0) {x : Nlri}
    (hx : x ∈ target) (hpos : 0 < x.size) : x ∈ l := by
  rw [← e] at hx
  rcases List.mem_append.1 hx with h | h
  · exact h
  · have := size_le_sz h; omega

theorem splitGroup_sub {maxi hdr : Nat} {xs it : List Nlri} {y : Nlri}
    (hit : it ∈ splitGroup maxi hdr xs []) (hy : y ∈ it) : y ∈ xs ∧ attrLen (hdr + y.size) ≤ maxi := by
  obtain ⟨t, _, e⟩ := splitGroup_flatten maxi hdr xs []
  have : y ∈ (splitGroup maxi hdr xs []).flatten ++ t :=
    List.mem_append_left _ (List.mem_flatten.2 ⟨it, hit, hy⟩)
  simpa [e] using this

theorem splitGroup_cover {maxi hdr : Nat} {xs : List Nlri} {y : Nlri} (hy : y ∈ xs) (hpos : 0 < y.size)
    (hfit : attrLen (hdr + y.size) ≤ maxi) : ∃ it ∈ splitGroup maxi hdr xs [], y ∈ it := by
  obtain ⟨t, ht, e⟩ := splitGroup_flatten maxi hdr xs []
  exact List.mem_flatten.1 (mem_of_tail e ht (by simp [hy, hfit]) hpos)

end Exa.Pack
