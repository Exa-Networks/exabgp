import ExaModel.Lemmas.OpenCodecValue
/-! Framing of the OPEN.  First on raw octets: what the decoder does with the fixed part, with the
    optional-parameter block (both formats) and with one well-framed parameter, whatever they hold.  Then
    the round trip of the encoder, and the refusal of a parameter that is not a Capabilities parameter. -/
namespace Exa.Open

instance {ε α : Type} [DecidableEq ε] [DecidableEq α] : DecidableEq (Except ε α) := fun a b =>
  match a, b with
  | .ok x, .ok y => if h : x = y then isTrue (by rw [h]) else isFalse (by intro e; cases e; exact h rfl)
  | .error x, .error y => if h : x = y then isTrue (by rw [h]) else isFalse (by intro e; cases e; exact h rfl)
  | .ok _, .error _ => isFalse (by intro e; cases e)
  | .error _, .ok _ => isFalse (by intro e; cases e)

/-- the optional-parameter block around raw parameter octets `p` -/
def optRaw (ext : Bool) (p : Bytes) : Bytes :=
  if ext then [255, 255] ++ be16 p.length ++ p else [p.length] ++ p

/-- an OPEN body (version 4) with raw parameter octets -/
def openRaw (ext : Bool) (myAs hold bgpId : Nat) (p : Bytes) : Bytes :=
  encFixed 4 myAs hold bgpId ++ optRaw ext p

/-- one optional parameter of type `k` with value `v` -/
def rawParam (ext : Bool) (k : Nat) (v : Bytes) : Bytes :=
  (if ext then [k] ++ be16 v.length else [k, v.length]) ++ v

theorem encOptional_eq (ext : Bool) (gs : List (List Cap)) : encOptional ext gs = optRaw ext (encParams ext gs) := rfl

theorem encGroup_eq (ext : Bool) (g : List Cap) : encGroup ext g = rawParam ext 2 (g.flatMap encCapTLV) := rfl

theorem walkCaps_nil (fuel : Nat) : walkCaps fuel [] = .ok [] := by
  cases fuel <;> rfl

theorem walkParams_nil (ext : Bool) (fuel : Nat) : walkParams ext fuel [] = .ok [] := by
  cases fuel <;> rfl

theorem decodeOpen_fixed (myAs hold bgpId : Nat) (opt : Bytes) (hf : wfFixed myAs hold bgpId = true)
    (hp : 0 < opt.length) :
    decodeOpen (encFixed 4 myAs hold bgpId ++ opt) =
      (decodeOptional opt).map
        (fun caps => { version := 4, myAs := myAs, hold := hold, bgpId := bgpId, caps := caps }) := by
  simp only [wfFixed, Bool.and_eq_true, decide_eq_true_eq] at hf
  obtain ⟨⟨h1, h2⟩, h3⟩ := hf
  have e : encFixed 4 myAs hold bgpId ++ opt = 4 :: (be16 myAs ++ (be16 hold ++ (be32 bgpId ++ opt))) := by
    simp [encFixed]
  have d3 : List.drop 3 (4 :: (be16 myAs ++ (be16 hold ++ (be32 bgpId ++ opt))))
      = be16 hold ++ (be32 bgpId ++ opt) := rfl
  have d5 : List.drop 5 (4 :: (be16 myAs ++ (be16 hold ++ (be32 bgpId ++ opt)))) = be32 bgpId ++ opt := rfl
  have d9 : List.drop 9 (4 :: (be16 myAs ++ (be16 hold ++ (be32 bgpId ++ opt)))) = opt := rfl
  have len : ¬ (4 :: (be16 myAs ++ (be16 hold ++ (be32 bgpId ++ opt)))).length < 10 := by
    simp only [List.length_cons, List.length_append, be16_length, be32_length]; omega
  rw [e, decodeOpen, if_neg len, if_neg (by simp), d3, d5, d9, List.drop_one, List.tail_cons,
    rd16_be16 myAs h1, rd16_be16 hold h2, rd32_be32 bgpId h3]
  cases decodeOptional opt <;> rfl

/-- In the one-octet form a block of 255 octets whose first octet is 255 too is taken for the marker of the
    extended form: `hm` excludes it. -/
theorem decodeOptional_raw (ext : Bool) (p : Bytes) (hl : p.length < (if ext then 65536 else 256))
    (hm : ext = false → p.length = 255 → p.getD 0 0 ≠ 255) :
    decodeOptional (optRaw ext p) = walkParams ext (p.length + 1) p := by
  cases ext with
  | true =>
    have e : optRaw true p = 255 :: 255 :: (be16 p.length ++ p) := rfl
    have d2 : List.drop 2 (be16 p.length ++ p) = p := List.drop_left' rfl
    simp [e, decodeOptional, rd16_be16 p.length hl p, d2]
    rw [if_neg (by omega), if_neg (by omega)]
  | false =>
    have e : optRaw false p = p.length :: p := rfl
    by_cases h255 : p.length = 255
    · cases p with
      | nil => simp at h255
      | cons a q =>
        have ha : a ≠ 255 := hm rfl h255
        have tk : List.take 254 q = q := List.take_of_length_le (by simp at h255; omega)
        simp [optRaw, decodeOptional, h255, ha, tk]
    · simp [e, decodeOptional, h255]

theorem optRaw_length_pos (ext : Bool) (p : Bytes) : 0 < (optRaw ext p).length := by
  cases ext <;> simp [optRaw]

theorem decodeOpen_raw (ext : Bool) (myAs hold bgpId : Nat) (p : Bytes)
    (hf : wfFixed myAs hold bgpId = true) (hl : p.length < (if ext then 65536 else 256))
    (hm : ext = false → p.length = 255 → p.getD 0 0 ≠ 255) :
    decodeOpen (openRaw ext myAs hold bgpId p) =
      (walkParams ext (p.length + 1) p).map
        (fun caps => { version := 4, myAs := myAs, hold := hold, bgpId := bgpId, caps := caps }) := by
  rw [openRaw, decodeOpen_fixed _ _ _ _ hf (optRaw_length_pos ext p), decodeOptional_raw ext p hl hm]

theorem walkParams_param (ext : Bool) (k : Nat) (v tail : Bytes) (hv : v.length < (if ext then 65536 else 256))
    (fuel : Nat) :
    walkParams ext (fuel + 1) (rawParam ext k v ++ tail) =
      if k = 1 then .error ⟨2, 5⟩
      else if k = 2 then
        (walkCaps (v.length + 1) v).bind fun cs => (walkParams ext fuel tail).map (cs ++ ·)
      else .error ⟨2, 4⟩ := by
  have tk : List.take v.length (v ++ tail) = v := List.take_left' rfl
  have dr : List.drop v.length (v ++ tail) = tail := List.drop_left' rfl
  cases ext with
  | false =>
    have e : rawParam false k v ++ tail = k :: v.length :: (v ++ tail) := by simp [rawParam]
    simp only [e, walkParams, List.isEmpty_cons, Bool.false_eq_true, if_false, List.length_cons, List.length_append,
      List.getD_cons_zero, List.getD_cons_succ, List.drop_succ_cons, List.drop_zero, tk]
    rw [if_neg (by omega), if_neg (by omega), dr]
    cases walkCaps (v.length + 1) v <;> cases walkParams false fuel tail <;> rfl
  | true =>
    have e : rawParam true k v ++ tail = k :: (be16 v.length ++ (v ++ tail)) := by simp [rawParam]
    have d2 : List.drop 2 (be16 v.length ++ (v ++ tail)) = v ++ tail := List.drop_left' rfl
    simp only [e, walkParams, List.isEmpty_cons, Bool.false_eq_true, if_false, if_true, List.length_cons, List.length_append,
      be16_length, List.getD_cons_zero, List.drop_succ_cons, List.drop_zero, rd16_be16 v.length hv, d2, tk]
    rw [if_neg (by omega), if_neg (by omega), Nat.add_comm v.length 2, ← List.drop_drop, d2, dr]
    cases walkCaps (v.length + 1) v <;> cases walkParams true fuel tail <;> rfl

theorem walkParams_other (ext : Bool) (k : Nat) (v tail : Bytes) (hk : k ≠ 2)
    (hv : v.length < (if ext then 65536 else 256)) (fuel : Nat) :
    walkParams ext (fuel + 1) (rawParam ext k v ++ tail) = .error (if k = 1 then ⟨2, 5⟩ else ⟨2, 4⟩) := by
  rw [walkParams_param ext k v tail hv, if_neg hk]
  split <;> rfl

theorem encCapTLV_length (c : Cap) : (encCapTLV c).length = c.value.length + 2 := by
  simp [encCapTLV]

theorem length_le_groupLen (g : List Cap) : g.length ≤ groupLen g := by
  induction g with
  | nil => simp [groupLen]
  | cons c t ih =>
    simp only [groupLen, List.flatMap_cons, List.length_append, encCapTLV_length, List.length_cons] at *
    omega

theorem walkCaps_enc (g : List Cap) (hw : g.all wfCap = true) (fuel : Nat) (hf : g.length ≤ fuel) :
    walkCaps fuel (g.flatMap encCapTLV) = .ok g := by
  induction g generalizing fuel with
  | nil => exact walkCaps_nil fuel
  | cons c t ih =>
    cases fuel with
    | zero => simp at hf
    | succ f =>
      simp only [List.all_cons, Bool.and_eq_true] at hw
      have hf' : t.length ≤ f := by simpa using hf
      have e : (c :: t).flatMap encCapTLV = c.code :: c.value.length :: (c.value ++ t.flatMap encCapTLV) := by
        simp [List.flatMap_cons, encCapTLV]
      have tk : List.take c.value.length (c.value ++ t.flatMap encCapTLV) = c.value := List.take_left' rfl
      have dr : List.drop c.value.length (c.value ++ t.flatMap encCapTLV) = t.flatMap encCapTLV := List.drop_left' rfl
      rw [e]
      simp [walkCaps, tk, dr, decodeCap_value c hw.1, ih hw.2 f hf']
      rw [if_neg (by omega), if_neg (by omega)]

theorem encGroup_length (ext : Bool) (g : List Cap) :
    (encGroup ext g).length = groupLen g + (if ext then 3 else 2) := by
  cases ext <;> simp [encGroup, groupLen] <;> omega

theorem encGroup_length_bounds (ext : Bool) (g : List Cap) :
    groupLen g + 2 ≤ (encGroup ext g).length ∧ (encGroup ext g).length ≤ groupLen g + 3 := by
  rw [encGroup_length]; split <;> omega

theorem length_le_encParams (ext : Bool) (gs : List (List Cap)) : gs.length ≤ (encParams ext gs).length := by
  induction gs with
  | nil => simp [encParams]
  | cons g t ih =>
    have h := encGroup_length_bounds ext g
    simp only [encParams, List.flatMap_cons, List.length_append, List.length_cons] at *
    omega

theorem walkParams_enc_append (ext : Bool) (gs : List (List Cap)) (hw : gs.all (wfGroup ext) = true)
    (tail : Bytes) (fuel : Nat) (hf : gs.length ≤ fuel) :
    walkParams ext fuel (encParams ext gs ++ tail) = (walkParams ext (fuel - gs.length) tail).map (gs.flatten ++ ·) := by
  induction gs generalizing fuel with
  | nil =>
    simp only [encParams, List.flatMap_nil, List.nil_append, List.length_nil, Nat.sub_zero, List.flatten_nil]
    cases walkParams ext fuel tail <;> rfl
  | cons g t ih =>
    cases fuel with
    | zero => simp at hf
    | succ f =>
      simp only [List.all_cons, Bool.and_eq_true, wfGroup, decide_eq_true_eq] at hw
      obtain ⟨⟨hcaps, hlen⟩, ht⟩ := hw
      have e : encParams ext (g :: t) ++ tail = rawParam ext 2 (g.flatMap encCapTLV) ++ (encParams ext t ++ tail) := by
        simp [encParams, encGroup_eq]
      have wc := walkCaps_enc g hcaps (groupLen g + 1) (by have := length_le_groupLen g; omega)
      rw [e, walkParams_param ext 2 _ _ hlen, if_neg (by decide), if_pos rfl, show (g.flatMap encCapTLV).length = groupLen g from rfl,
        wc, ih ht f (by simpa using hf), List.length_cons, Nat.add_sub_add_right]
      cases walkParams ext (f - t.length) tail <;> simp [Except.bind, Except.map]

theorem walkParams_enc (ext : Bool) (gs : List (List Cap)) (hw : gs.all (wfGroup ext) = true)
    (fuel : Nat) (hf : gs.length ≤ fuel) :
    walkParams ext fuel (encParams ext gs) = .ok gs.flatten := by
  have := walkParams_enc_append ext gs hw [] fuel hf
  simpa [walkParams_nil, Except.map] using this

theorem wfGroups_iff (ext : Bool) (gs : List (List Cap)) :
    wfGroups ext gs = true ↔ gs.all (wfGroup ext) = true ∧ (encParams ext gs).length < (if ext then 65536 else 256) := by
  simp [wfGroups, wfGroup]

theorem encParams_getD_zero (gs : List (List Cap)) (h : encParams false gs ≠ []) : (encParams false gs).getD 0 0 = 2 := by
  cases gs with
  | nil => exact absurd rfl h
  | cons g t => rfl

theorem decodeOptional_enc (ext : Bool) (gs : List (List Cap)) (hw : wfGroups ext gs = true) :
    decodeOptional (encOptional ext gs) = .ok gs.flatten := by
  rw [wfGroups_iff] at hw
  have hm : ext = false → (encParams ext gs).length = 255 → (encParams ext gs).getD 0 0 ≠ 255 := by
    rintro rfl h
    rw [encParams_getD_zero gs (fun e => by simp [e] at h)]; decide
  rw [encOptional_eq, decodeOptional_raw ext _ hw.2 hm,
    walkParams_enc ext gs hw.1 _ (Nat.le_succ_of_le (length_le_encParams ext gs))]

theorem decodeOpen_encG (ext : Bool) (myAs hold bgpId : Nat) (gs : List (List Cap))
    (hf : wfFixed myAs hold bgpId = true) (hg : wfGroups ext gs = true) :
    decodeOpen (encodeOpenG ext 4 myAs hold bgpId gs)
      = .ok { version := 4, myAs := myAs, hold := hold, bgpId := bgpId, caps := gs.flatten } := by
  rw [encodeOpenG, decodeOpen_fixed _ _ _ _ hf (encOptional_eq ext gs ▸ optRaw_length_pos ext _), decodeOptional_enc ext gs hg]
  rfl

theorem flatten_singletons (caps : List Cap) : (caps.map (fun c => [c])).flatten = caps := by
  induction caps with
  | nil => rfl
  | cons c t ih => simp [ih]

theorem decodeOpen_encode (o : OpenMsg) (h : wfOpen o = true) : decodeOpen (encodeOpen o) = .ok o := by
  simp only [wfOpen, Bool.and_eq_true, decide_eq_true_eq] at h
  obtain ⟨⟨hv, hf⟩, hg⟩ := h
  rw [encodeOpen, hv, decodeOpen_encG _ _ _ _ _ hf hg, flatten_singletons, ← hv]

/-- After any well-formed capability parameters, a well-framed parameter of another type ends
    the decoding: 2/5 for type 1 (Authentication Information), 2/4 for every other type (RFC 4271 §6.2). -/
theorem decodeOpen_other_param (ext : Bool) (myAs hold bgpId : Nat) (gs : List (List Cap)) (k : Nat) (v tail : Bytes)
    (hf : wfFixed myAs hold bgpId = true) (hg : gs.all (wfGroup ext) = true) (hk : k ≠ 2)
    (hv : v.length < (if ext then 65536 else 256))
    (hl : (encParams ext gs ++ (rawParam ext k v ++ tail)).length < (if ext then 65536 else 255)) :
    decodeOpen (openRaw ext myAs hold bgpId (encParams ext gs ++ (rawParam ext k v ++ tail)))
      = .error (if k = 1 then ⟨2, 5⟩ else ⟨2, 4⟩) := by
  have hlen : gs.length ≤ (encParams ext gs ++ (rawParam ext k v ++ tail)).length := by
    rw [List.length_append]; exact Nat.le_add_right_of_le (length_le_encParams ext gs)
  have hl' : (encParams ext gs ++ (rawParam ext k v ++ tail)).length < (if ext then 65536 else 256) := by
    cases ext
    · exact Nat.lt_succ_of_lt hl
    · exact hl
  have hm : ext = false → (encParams ext gs ++ (rawParam ext k v ++ tail)).length = 255 →
      (encParams ext gs ++ (rawParam ext k v ++ tail)).getD 0 0 ≠ 255 := by
    rintro rfl h; exact absurd h (Nat.ne_of_lt hl)
  rw [decodeOpen_raw ext myAs hold bgpId _ hf hl' hm]
  generalize (encParams ext gs ++ (rawParam ext k v ++ tail)).length = n at hlen
  -- the fuel is the length of the block + 1: at least one unit is left when the walk reaches the parameter
  obtain ⟨f, hf'⟩ : ∃ f, n + 1 - gs.length = f + 1 := ⟨n - gs.length, by omega⟩
  rw [walkParams_enc_append ext gs hg _ _ (by omega), hf', walkParams_other ext k v tail hk hv f]
  rfl

end Exa.Open
