import ExaModel.Lemmas.SessionInv
/-!
# M-Session — what no step touches: the configuration; and `dead` only changes by `apiDies`
-/
namespace Exa.Session

def Fr (s t : State) : Prop := t.cfg = s.cfg ∧ t.dead = s.dead

theorem Fr.refl (s : State) : Fr s s := ⟨rfl, rfl⟩
theorem Fr.trans {a b c : State} (h1 : Fr a b) (h2 : Fr b c) : Fr a c := ⟨h2.1.trans h1.1, h2.2.trans h1.2⟩

theorem fr_seq {s : State} {r : R} {f : State → R} (h1 : Fr s r.1) (h2 : ∀ t, Fr t (f t).1) : Fr s (r ⊳ f).1 :=
  h1.trans (h2 r.1)

theorem fsmTo_fr (t : Fsm) (s : State) : Fr s (fsmTo t s).1 := ⟨rfl, rfl⟩
theorem setPc_fr (p : Pc) (s : State) : Fr s (setPc p s).1 := ⟨rfl, rfl⟩
theorem apiDown_fr (s : State) : Fr s (apiDown s).1 := by rw [apiDown_fst]; exact ⟨rfl, rfl⟩
theorem closeConn_fr (s : State) : Fr s (closeConn s).1 := by rw [closeConn_fst]; exact ⟨rfl, rfl⟩
theorem closeP_fr (s : State) : Fr s (closeP s).1 := by rw [closeP_fst]; exact ⟨rfl, rfl⟩
theorem resetP_fr (s : State) : Fr s (resetP s).1 := by rw [resetP_fst]; exact ⟨rfl, rfl⟩
theorem finish_fr (s : State) : Fr s (finish s).1 := ⟨rfl, rfl⟩
theorem stopP_fr (s : State) : Fr s (stopP s).1 := ⟨rfl, rfl⟩
theorem stopIfExhausted_fr (s : State) : Fr s (stopIfExhausted s).1 := by
  rw [stopIfExhausted_fst]; split <;> exact ⟨rfl, rfl⟩
theorem onNetErr_fr (s : State) : Fr s (onNetErr s).1 := by rw [onNetErr_fst]; exact ⟨rfl, rfl⟩
theorem onNotification_fr (s : State) : Fr s (onNotification s).1 := by rw [onNotification_fst]; exact onNetErr_fr s
theorem onOther_fr (s : State) : Fr s (onOther s).1 := by rw [onOther_fst]; exact ⟨rfl, rfl⟩
theorem onNotify_fr (c d : Nat) (s : State) : Fr s (onNotify c d s).1 := by rw [onNotify_fst]; exact ⟨rfl, rfl⟩
theorem sendOn_fr (k : Kind) (s : State) : Fr s (sendOn k s).1.1 := by rw [sendOn_fst]; exact ⟨rfl, rfl⟩
theorem closeIfAny_fr (s : State) : Fr s (closeIfAny s).1 := by
  unfold closeIfAny; split
  · exact closeP_fr s
  · exact Fr.refl s

theorem afterConnect_fr (s : State) : Fr s (afterConnect s).1 := by
  have h : Fr s (sendOn .open (fsmTo .connect s).1).1.1 := (fsmTo_fr .connect s).trans (sendOn_fr _ _)
  fun_cases afterConnect s
  · exact fr_seq (fr_seq h (fsmTo_fr _)) (fun t => setPc_fr _ t)
  · exact fr_seq h onNetErr_fr

theorem establish2_fr (s : State) : Fr s (establish2 s).1 := by
  unfold establish2
  refine fr_seq (fsmTo_fr _ s) ?_
  intro t; split
  · exact ⟨rfl, rfl⟩
  · exact afterConnect_fr t

theorem beginRun_fr (s : State) : Fr s (beginRun s).1 := by
  unfold beginRun
  refine fr_seq (fsmTo_fr _ s) ?_
  intro t; split
  · exact setPc_fr _ t
  · exact establish2_fr t

theorem enterMain_fr (c : Nat) (s : State) : Fr s (enterMain c s).1 := by
  fun_cases enterMain c s
  · exact onNotify_fr _ _ s
  · exact onNotify_fr _ _ s
  · exact ⟨rfl, rfl⟩

theorem andSend_fr {s : State} {w : W} {f : State → W} (h1 : Fr s w.1.1) (h2 : ∀ t, Fr t (f t).1.1) :
    Fr s (w.andSend f).1.1 := by
  fun_cases W.andSend w f
  · exact h1.trans (h2 _)
  · exact h1

theorem mainSends_fr (s : State) : Fr s (mainSends s).1.1 :=
  mainSends_cases (P := fun s w => Fr s w.1.1) Fr.refl
    (fun k _ s _ hupd => Fr.trans ⟨(hupd s).1.cfg, (hupd s).2.2⟩ (sendOn_fr k _)) (fun _ _ _ => andSend_fr) s

theorem mainExit_fr (s : State) : Fr s (mainExit s).1 := by
  fun_cases mainExit s
  · exact Fr.refl s
  · exact fr_seq (closeP_fr s) onNetErr_fr
  · exact onNotify_fr _ _ s

theorem mainTail_fr (s : State) : Fr s (mainTail s).1 := by
  fun_cases mainTail s
  · exact fr_seq (mainSends_fr s) mainExit_fr
  · exact fr_seq (mainSends_fr s) onNetErr_fr

theorem mainIter_fr (m : Option Msg) (s : State) : Fr s (mainIter m s).1 :=
  mainIter_cases (P := fun r => Fr s r.1) m s (fun _ _ => onNotify_fr _ _ s) (onNotification_fr s)
    (Fr.trans (b := mainPre m s) ⟨rfl, rfl⟩ (mainTail_fr _))

theorem staleIter_fr (s : State) : Fr s (staleIter s).1 := onOther_fr s

theorem drainMain_fr : ∀ (n : Nat) (s : State), Fr s (drainMain n s).1
  | 0, s => Fr.refl s
  | n + 1, s =>
    drainMain_cases (P := fun r => Fr s r.1) n s (Fr.refl s) (fun _ _ _ _ _ => fr_seq (mainIter_fr _ s) (drainMain_fr n))
      (fun _ _ => fr_seq (staleIter_fr s) (drainMain_fr n)) (fun _ _ => staleIter_fr s)

theorem markConn_fr (f : Conn → Conn) (s : State) : Fr s (markConn f s) := by
  fun_cases markConn f s <;> exact ⟨rfl, rfl⟩

theorem sendKa_fr (c : Nat) (s : State) : Fr s (sendKa c s).1 := by
  fun_cases sendKa c s
  · exact fr_seq (sendOn_fr _ s) (fun t => setPc_fr _ t)
  · exact fr_seq (sendOn_fr _ s) onNetErr_fr

theorem deliverAlive_fr (m : Msg) (s : State) : Fr s (deliverAlive m s).1 :=
  deliverAlive_cases (P := fun r => Fr s r.1) m s (fun _ _ => onNotify_fr _ _ s) (onNotification_fr s)
    (fun _ _ _ => fr_seq ((markConn_fr _ s).trans (fsmTo_fr _ _)) (sendKa_fr _))
    (fun _ _ => fr_seq ((markConn_fr _ s).trans (fsmTo_fr _ _)) (enterMain_fr _))
    (fun _ _ => mainIter_fr _ s) (Fr.refl s)

theorem deliver_fr (m : Msg) (s : State) : Fr s (deliver m s).1 := by
  fun_cases deliver m s
  · unfold onProcessError; rw [andThen_fst]; exact onOther_fr s
  · exact deliverAlive_fr m s

theorem readErr_fr (s : State) : Fr s (readErr s).1 := fr_seq (closeConn_fr s) onNetErr_fr

theorem advance_fr : ∀ (n : Nat) (s : State), Fr s (advance n s).1
  | 0, s => Fr.refl s
  | n + 1, s =>
    advance_cases (P := fun r => Fr s r.1) n s (Fr.refl s)
      (fun _ k _ rest _ _ _ _ =>
        fr_seq (Fr.trans (b := { s with conn := some { k with inbox := rest } }) ⟨rfl, rfl⟩ (deliver_fr _ _)) (advance_fr n))
      (fun _ _ => readErr_fr s)

theorem adopt_fr (s : State) : Fr s (adopt s).1 := by
  unfold adopt
  refine fr_seq (fr_seq (closeIfAny_fr s) (fun t => ⟨rfl, rfl⟩)) ?_
  intro t; split
  · exact establish2_fr t
  · exact Fr.refl t

theorem handleConnection_fr (s : State) : Fr s (handleConnection s).1 := by
  fun_cases handleConnection s
  · exact ⟨rfl, rfl⟩
  · exact fr_seq (closeIfAny_fr s) (fun t => ⟨rfl, rfl⟩)
  · exact adopt_fr s

theorem react_fr (s : State) (e : Event) :
    (react s e).1.cfg = s.cfg ∧ (e ≠ .apiDies → (react s e).1.dead = s.dead) := by
  have fr {r : R} (h : Fr s r.1) : r.1.cfg = s.cfg ∧ (e ≠ .apiDies → r.1.dead = s.dead) := ⟨h.1, fun _ => h.2⟩
  refine react_cases (P := fun r => r.1.cfg = s.cfg ∧ (e ≠ .apiDies → r.1.dead = s.dead)) s e
    (stay := fr (Fr.refl s))
    (begin := fun _ => fr (beginRun_fr s))
    (finished := fun _ => fr (setPc_fr _ s))
    (connected := fun _ => fr (fr_seq (r := (_, _)) ⟨rfl, rfl⟩ afterConnect_fr))
    (connectedApiGone := fun _ =>
      fr (fr_seq (Fr.trans (b := { s with nextId := s.nextId + 1 }) ⟨rfl, rfl⟩ (onOther_fr _)) (fun t => ⟨rfl, rfl⟩)))
    (connectFail := fun _ => fr (fr_seq (closeIfAny_fr s) onOther_fr))
    (incoming := fr (handleConnection_fr s))
    (wire := fun _ _ _ _ => fr ⟨rfl, rfl⟩)
    (openwait := fun _ _ => fr (onNotify_fr _ _ s))
    (holdMain := ?holdMain)
    (holdKa := fun _ _ => fr (onNotify_fr _ _ s))
    (tick := fun _ _ _ _ _ => fr (mainIter_fr _ s))
    (stale := fun _ _ => fr (staleIter_fr s))
    (request := fun _ _ _ _ _ => fr ⟨rfl, rfl⟩)
    (apiDies := fun h => ⟨rfl, fun h' => absurd h h'⟩)
    (stop := fr (fr_seq (closeIfAny_fr s) stopP_fr))
  case holdMain =>
    intro _ _
    refine fr (fr_seq (drainMain_fr _ s) ?_)
    intro t; split
    · exact onNotify_fr _ _ t
    · exact Fr.refl t

theorem step_fr (s : State) (e : Event) :
    (step s e).1.cfg = s.cfg ∧ (e ≠ .apiDies → (step s e).1.dead = s.dead) := by
  have h1 := react_fr s e
  have h2 := advance_fr (fuelOf (react s e).1) (react s e).1
  exact ⟨h2.1.trans h1.1, fun h => h2.2.trans (h1.2 h)⟩

theorem run_fr : ∀ (evs : List Event) (s : State),
    (run s evs).1.cfg = s.cfg ∧ (Event.apiDies ∉ evs → (run s evs).1.dead = s.dead)
  | [], s => ⟨rfl, fun _ => rfl⟩
  | e :: es, s => by
    have h1 := step_fr s e
    have h2 := run_fr es (step s e).1
    refine ⟨h2.1.trans h1.1, fun hn => ?_⟩
    simp only [List.mem_cons, not_or] at hn
    exact (h2.2 hn.2).trans (h1.2 (fun h => hn.1 h.symm))

end Exa.Session
