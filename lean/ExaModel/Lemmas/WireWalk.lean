import ExaModel.Model.WireNlri
/-! The loop shared by `decNlris` and `decAttrs` (and their counting twins): take items off the front
    of a byte string with `step` until nothing is left. What the two walks are shown to do they
    inherit here from a fact about one step. -/
namespace Exa.Wire
open Exa

variable {α : Type} {step : Bytes → Except Err (α × Bytes)} {e0 : Err}

/-- `e0` is the answer when the fuel runs out before the bytes do. -/
def walk (step : Bytes → Except Err (α × Bytes)) (e0 : Err) : Nat → Bytes → Except Err (List α)
  | _, [] => .ok []
  | 0, _ :: _ => .error e0
  | f + 1, b :: bs =>
    match step (b :: bs) with
    | .error e => .error e
    | .ok (a, rest) =>
      match walk step e0 f rest with
      | .error e => .error e
      | .ok as => .ok (a :: as)

/-- `walk` + the number of calls of `step`. -/
def walkSteps (step : Bytes → Except Err (α × Bytes)) (e0 : Err) : Nat → Bytes → Except Err (List α) × Nat
  | _, [] => (.ok [], 0)
  | 0, _ :: _ => (.error e0, 0)
  | f + 1, b :: bs =>
    match step (b :: bs) with
    | .error e => (.error e, 1)
    | .ok (a, rest) =>
      ((match (walkSteps step e0 f rest).1 with
        | .error e => .error e
        | .ok as => .ok (a :: as)),
       (walkSteps step e0 f rest).2 + 1)

theorem walk_nil (f : Nat) : walk step e0 f [] = .ok [] := by cases f <;> rfl

theorem walk_of_step_ok {bs rest : Bytes} {a : α} (hne : bs ≠ []) (h : step bs = .ok (a, rest)) (f : Nat) :
    walk step e0 (f + 1) bs =
      match walk step e0 f rest with
      | .error e => .error e
      | .ok as => .ok (a :: as) := by
  cases bs with
  | nil => exact absurd rfl hne
  | cons b t => simp only [walk, h]

theorem succ_of_cons_le {b : Nat} {t : Bytes} {f : Nat} (h : (b :: t).length ≤ f) : ∃ g, f = g + 1 :=
  ⟨f - 1, by simp only [List.length_cons] at h; omega⟩

theorem walk_enc (enc : α → Bytes) (as : List α)
    (h : ∀ a ∈ as, enc a ≠ [] ∧ ∀ rest, step (enc a ++ rest) = .ok (a, rest))
    (fuel : Nat) (hf : (as.flatMap enc).length ≤ fuel) : walk step e0 fuel (as.flatMap enc) = .ok as := by
  induction as generalizing fuel with
  | nil => exact walk_nil fuel
  | cons a t ih =>
    obtain ⟨hne, hs⟩ := h a List.mem_cons_self
    rw [List.flatMap_cons] at hf ⊢
    have hpos := List.length_pos_iff.2 hne
    rw [List.length_append] at hf
    cases fuel with
    | zero => omega
    | succ f =>
      rw [walk_of_step_ok (by simp [hne]) (hs _), ih (fun x hx => h x (List.mem_cons_of_mem _ hx)) f (by omega)]

theorem walk_len (enc : α → Bytes)
    (hstep : ∀ bs a rest, step bs = .ok (a, rest) → bs.length = (enc a).length + rest.length)
    (f : Nat) (bs : Bytes) (as : List α) (h : walk step e0 f bs = .ok as) :
    (as.flatMap enc).length = bs.length := by
  fun_induction walk step e0 f bs generalizing as with
  | case1 => cases h; rfl
  | case5 f b t a rest hs as' hw ih =>
    cases h
    rw [List.flatMap_cons, List.length_append, ih as' hw, hstep _ a rest hs]
  | _ => cases h

theorem walk_err (S : Err → Prop) (h0 : S e0) (hstep : ∀ bs e, step bs = .error e → S e)
    (f : Nat) (bs : Bytes) (e : Err) (h : walk step e0 f bs = .error e) : S e := by
  fun_induction walk step e0 f bs with
  | case2 => cases h; exact h0
  | case3 f b t e' hs => cases h; exact hstep _ _ hs
  | case4 f b t a rest hs e' hw ih => cases h; exact ih hw
  | _ => cases h

section progress
variable (hprog : ∀ bs a rest, step bs = .ok (a, rest) → rest.length < bs.length)
include hprog

theorem walk_fuel (f1 f2 : Nat) (bs : Bytes) (h1 : bs.length ≤ f1) (h2 : bs.length ≤ f2) :
    walk step e0 f1 bs = walk step e0 f2 bs := by
  fun_induction walk step e0 f1 bs generalizing f2 with
  | case1 => exact (walk_nil f2).symm  -- no bytes left
  | case2 => cases h1  -- no fuel left
  | case3 f b t e hs =>  -- `step` fails
    obtain ⟨g, rfl⟩ := succ_of_cons_le h2
    simp only [walk, hs]
  | case4 f b t a rest hs _ hw ih | case5 f b t a rest hs _ hw ih =>  -- `step` succeeds, the rest fails / succeeds
    obtain ⟨g, rfl⟩ := succ_of_cons_le h2
    have hp := hprog _ a rest hs
    simp only [List.length_cons] at h1 h2 hp
    simp only [walk, hs, ← ih g (by omega) (by omega), hw]

theorem walk_error_is_real (f : Nat) (bs : Bytes) (e : Err) (hf : bs.length ≤ f)
    (h : walk step e0 f bs = .error e) : ∃ tail, tail.length ≤ bs.length ∧ step tail = .error e := by
  fun_induction walk step e0 f bs with
  | case2 => cases hf
  | case3 f b t e' hs => cases h; exact ⟨b :: t, Nat.le_refl _, hs⟩
  | case4 f b t a rest hs e' hw ih =>
    cases h
    have hp := hprog _ a rest hs
    obtain ⟨tail, hl, hd⟩ := ih (by simp only [List.length_cons] at hf hp; omega) hw
    exact ⟨tail, Nat.le_trans hl (Nat.le_of_lt hp), hd⟩
  | _ => cases h

end progress

theorem walkSteps_fst (f : Nat) (bs : Bytes) : (walkSteps step e0 f bs).1 = walk step e0 f bs := by
  fun_induction walk step e0 f bs <;> simp only [walkSteps, *]

/-- `n` iterations need `k (n - 1) + 1` bytes: all but the last, which may be the failing one, consumed `k`. -/
theorem walkSteps_le (k : Nat) (hk : 1 ≤ k)
    (hprog : ∀ bs a rest, step bs = .ok (a, rest) → rest.length + k ≤ bs.length) (f : Nat) (bs : Bytes) :
    k * (walkSteps step e0 f bs).2 ≤ bs.length + (k - 1) := by
  fun_induction walkSteps step e0 f bs with
  | case1 | case2 => exact Nat.zero_le _
  | case3 => simp only [List.length_cons, Nat.mul_one]; omega
  | case4 f b t a rest hs ih =>
    have hp := hprog _ a rest hs
    simp only [Nat.mul_add, Nat.mul_one]
    omega

theorem walkSteps_ok (f : Nat) (bs : Bytes) (as : List α) (h : walk step e0 f bs = .ok as) :
    (walkSteps step e0 f bs).2 = as.length := by
  fun_induction walk step e0 f bs generalizing as with
  | case1 => cases h; simp only [walkSteps, List.length_nil]
  | case5 f b t a rest hs as' hw ih => cases h; simp only [walkSteps, hs, ih as' hw, List.length_cons]
  | _ => cases h

end Exa.Wire
