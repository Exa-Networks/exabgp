import ExaModel.Lemmas.SessionInv
import ExaModel.Generated.PyPeer
/-!
# M-Session — the methods of `Peer` the model branches on, as translated from /repo

`Generated/PyPeer.lean` holds `Peer.handle_connection`, `can_reconnect`, `_reset`, `teardown`, `reestablish`, `stop`
and `_close` of /repo, translated statement by statement on every run.  Their inputs are instantiated with the state
of M-Session: `self._restart` is `restart`, `self._teardown is not None` is `teardown.isSome`, the FSM tests are
tests on `fsm`, `self.proto` is `conn.isSome`, and the comparison of the two BGP identifiers is the `idLow` flag of the
connection in hand.

The translated methods branch on Booleans only: each is first brought to a closed form over arbitrary inputs
(a finite sweep), then instantiated with the model's state.
-/
namespace Exa.Session
open Exa.Generated Exa.Generated.PyPeer

/-- the comparison `bytes(remote_id) < bytes(local_id)` on the OPEN of the connection in hand -/
def remoteIdLower (s : State) : Bool := match s.conn with | some k => k.idLow | none => false

/-- the translated method run on the model's state -/
def pyHandle (s : State) : PyRes PeerSt Unit :=
  Peer.handle_connection ⟨s.restart, s.conn.isSome, false⟩ s.teardown.isSome (s.fsm == .established)
    (s.fsm == .openconfirm) (remoteIdLower s)

theorem handle_connection_eq (restart proto tdSet est oc low : Bool) :
    Peer.handle_connection ⟨restart, proto, false⟩ tdSet est oc low =
      if !restart && tdSet then .raise 6 3 else if est || (oc && low) then .raise 6 7
      else .ret () ⟨restart, true, proto⟩ := by
  cases proto <;> cases est <;> cases oc <;> cases low <;> rfl

/-- **Refusal.** The code answers the incoming connection with a NOTIFICATION exactly when the model's `refuses`
    holds; the code is 6/3 when `stop()` ran (the peer is being removed) and 6/7 (collision resolution) otherwise. -/
theorem py_handle_refuses (s : State) :
    (refuses s = true → pyHandle s = .raise 6 (if (!s.restart && s.teardown.isSome) then 3 else 7)) ∧
    (refuses s = false → pyHandle s = .ret () ⟨s.restart, true, s.conn.isSome⟩) := by
  have hr : refuses s = ((!s.restart && s.teardown.isSome) ||
      (s.fsm == .established || (s.fsm == .openconfirm && remoteIdLower s))) := Bool.or_assoc _ _ _
  rw [hr, pyHandle, handle_connection_eq]
  cases (!s.restart && s.teardown.isSome) <;>
    cases (s.fsm == .established || (s.fsm == .openconfirm && remoteIdLower s)) <;> simp

/-- On acceptance the connection in hand is closed exactly when there was one (`adopt`: `closeP` iff `conn.isSome`),
    and `peer.proto` is the new connection. -/
theorem py_handle_accepts (s : State) (h : refuses s = false) :
    ∃ st, pyHandle s = .ret () st ∧ st.closed = s.conn.isSome ∧ st.proto = true ∧ st._restart = s.restart := by
  refine ⟨_, (py_handle_refuses s).2 h, rfl, rfl, rfl⟩

/-- an ephemeral neighbor is never restarted: nothing is reset for it -/
theorem py_reset_ephemeral (restart teardownSet : Bool) :
    Reset._reset ⟨restart, teardownSet, false, false⟩ true = .ret () ⟨restart, teardownSet, true, false⟩ := by
  cases restart <;> rfl

/-- the control part of the model's state as the state of the translated methods -/
def ctl (s : State) (idle : Bool) : ControlSt := ⟨(s.teardown.getD 0 : Nat), s.restart, idle⟩

/-- `Peer.teardown(code)` as the API calls it (restart left at its default True) = the model's `.teardown code`. -/
theorem py_teardown_eq_model (s : State) (code : Nat) :
    Control.teardown (ctl s false) code true = .ret () (ctl (react s (.teardown code)).1 false) := rfl

/-- `Peer.reestablish()` = the model's `.reestablish` (teardown 3, the peer restarts). -/
theorem py_reestablish_eq_model (s : State) :
    Control.reestablish (ctl s false) = .ret () (ctl (react s .reestablish).1 false) := rfl

/-- `Peer.stop()` = `stopP` of the model: teardown 3, no restart, the FSM goes to IDLE. -/
theorem py_stop_eq_model (s : State) :
    Control.stop (ctl s false) = .ret () (ctl (stopP s).1 true) ∧ (stopP s).1.fsm = .idle ∧
      stopChangesToIdle = true :=
  ⟨rfl, rfl, rfl⟩

/-- the translated `_close` run on the model's state (the rig's neighbors have an `api` section) -/
def pyClose (s : State) : PyRes CloseSt Unit :=
  Close._close ⟨s.conn.isSome, false, false, false⟩ (!(s.fsm == .idle || s.fsm == .active)) true s.cfg.changes

theorem close_eq (proto beyond api changes : Bool) :
    Close._close ⟨proto, false, false, false⟩ beyond api changes =
      .ret () ⟨false, beyond && (api && changes), true, proto⟩ := by
  cases proto <;> cases beyond <;> cases api <;> cases changes <;> rfl

/-- `Peer._close` as translated from /repo: `processes.down` is called exactly when the FSM is beyond ACTIVE and
    the neighbor reports its changes, the FSM is told to go to IDLE, the connection in hand is closed exactly when
    there is one, and `peer.proto` is None afterwards. -/
theorem py_close_result (s : State) :
    pyClose s = .ret () ⟨false, (!(s.fsm == .idle || s.fsm == .active)) && s.cfg.changes, true, s.conn.isSome⟩ := by
  rw [pyClose, close_eq, Bool.true_and]

/-- ... and that is `closeP` of the model: it writes `down` for the API exactly when the translated method calls
    `processes.down` and the API process is alive, it leaves the FSM in IDLE, it closes the transport exactly when
    the translated method calls `proto.close`, and there is no connection afterwards. -/
theorem py_close_is_closeP (s : State) :
    (Out.down ∈ (closeP s).2 ↔ ((!(s.fsm == .idle || s.fsm == .active)) && s.cfg.changes) = true ∧ s.dead = false) ∧
    (closeP s).1.fsm = .idle ∧ (closeP s).1.conn = none ∧
    ((∃ i, Out.close i ∈ (closeP s).2) ↔ s.conn.isSome = true) ∧ closeChangesToIdle = true := by
  have hq : quietFsm s.fsm = (s.fsm == .idle || s.fsm == .active) := rfl
  have hd : ∀ i, Out.close i ∉ (if quietFsm s.fsm then [] else downOut s) := by
    intro i; unfold downOut; split
    · simp
    · split <;> simp
  refine ⟨?_, by rw [closeP_fst], by rw [closeP_fst], ?_, rfl⟩
  · rw [closeP_snd, ← hq]
    cases quietFsm s.fsm <;> cases s.conn <;> simp [downOut]
  · rw [closeP_snd]
    cases s.conn <;> simp [hd]

end Exa.Session
