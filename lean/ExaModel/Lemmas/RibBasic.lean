import ExaModel.Model.Rib
/-! Association lists as maps: membership against `lookup`, keys without repetition, and what
    `insert`, `erase` and `List.filter` do to both. -/
namespace Exa
namespace AList
variable {α β : Type} [DecidableEq α]

def NodupKeys (l : AList α β) : Prop := (keys l).Nodup

omit [DecidableEq α] in
theorem nodupKeys_nil : NodupKeys ([] : AList α β) := List.nodup_nil

omit [DecidableEq α] in
theorem nodupKeys_cons {k : α} {v : β} {t : AList α β} :
    NodupKeys ((k, v) :: t) ↔ k ∉ keys t ∧ NodupKeys t := List.nodup_cons

theorem erase_eq_filter (k : α) (l : AList α β) : erase k l = l.filter (fun p => decide (p.1 ≠ k)) := by
  fun_induction erase k l <;> simp [*]

theorem mem_erase {k : α} {l : AList α β} {p : α × β} (h : p ∈ erase k l) : p ∈ l := by
  rw [erase_eq_filter] at h; exact (List.mem_filter.1 h).1

omit [DecidableEq α] in
theorem nodup_filter (q : α × β → Bool) {l : AList α β} (h : NodupKeys l) : NodupKeys (l.filter q) :=
  List.Nodup.sublist (List.Sublist.map _ List.filter_sublist) h

theorem nodup_erase {k : α} {l : AList α β} (h : NodupKeys l) : NodupKeys (erase k l) := by
  rw [erase_eq_filter]; exact nodup_filter _ h

theorem mem_insert {k : α} {v : β} {l : AList α β} {p : α × β} (h : p ∈ insert k v l) :
    p = (k, v) ∨ p ∈ l := by
  fun_induction insert k v l with
  | case1 => exact .inl (List.mem_singleton.1 h)
  | case2 v' t => exact (List.mem_cons.1 h).imp_right (List.mem_cons_of_mem _)
  | case3 k' v' t hk ih =>
    rcases List.mem_cons.1 h with h | h
    · exact .inr (h ▸ List.mem_cons_self)
    · exact (ih h).imp_right (List.mem_cons_of_mem _)

theorem mem_keys_insert {k k' : α} {v : β} {l : AList α β} (h : k' ∈ keys (insert k v l)) :
    k' = k ∨ k' ∈ keys l := by
  obtain ⟨p, hp, rfl⟩ := List.mem_map.1 h
  rcases mem_insert hp with e | e
  · exact Or.inl (e ▸ rfl)
  · exact Or.inr (List.mem_map.2 ⟨p, e, rfl⟩)

theorem nodup_insert {k : α} {v : β} {l : AList α β} (h : NodupKeys l) : NodupKeys (insert k v l) := by
  fun_induction insert k v l with
  | case1 => simp [NodupKeys, keys]
  | case2 v' t => exact h
  | case3 k' v' t hk ih =>
    rw [nodupKeys_cons] at h ⊢
    exact ⟨fun hm => (mem_keys_insert hm).elim hk h.1, ih h.2⟩

/-- Python's `d[k] = v` for a new key: appended. -/
theorem insert_fresh {k : α} {l : AList α β} (h : k ∉ keys l) (v : β) : insert k v l = l ++ [(k, v)] := by
  fun_induction insert k v l with
  | case1 => rfl
  | case2 v' t => exact absurd List.mem_cons_self h
  | case3 k' v' t hk ih => rw [ih fun hm => h (List.mem_cons_of_mem _ hm), List.cons_append]

theorem lookup_eq_none_iff {k : α} {l : AList α β} : lookup k l = none ↔ k ∉ keys l := by
  fun_induction lookup k l with
  | case1 => exact iff_of_true rfl (fun h => nomatch h)
  | case2 v t => exact iff_of_false (fun h => nomatch h) (fun h => h List.mem_cons_self)
  | case3 k' v t hk ih =>
    exact ih.trans ⟨fun h hm => (List.mem_cons.1 hm).elim (Ne.symm hk) h, fun h hm => h (List.mem_cons_of_mem _ hm)⟩

theorem mem_of_lookup {k : α} {v : β} {l : AList α β} (h : lookup k l = some v) : (k, v) ∈ l := by
  fun_induction lookup k l with
  | case1 => cases h
  | case2 v' t => cases h; exact List.mem_cons_self
  | case3 k' v' t hk ih => exact List.mem_cons_of_mem _ (ih h)

theorem lookup_of_mem {k : α} {v : β} {l : AList α β} (hn : NodupKeys l) (hm : (k, v) ∈ l) :
    lookup k l = some v := by
  fun_induction lookup k l with
  | case1 => cases hm
  | case2 v' t =>
    rcases List.mem_cons.1 hm with h | h
    · cases h; rfl
    · exact absurd (List.mem_map.2 ⟨_, h, rfl⟩) (nodupKeys_cons.1 hn).1
  | case3 k' v' t hk ih =>
    rcases List.mem_cons.1 hm with h | h
    · cases h; exact absurd rfl hk
    · exact ih (nodupKeys_cons.1 hn).2 h

/-- Python's `d[k] = v` when `d[k]` is `v` already. -/
theorem insert_same {l : AList α β} {k : α} {v : β} (h : lookup k l = some v) : insert k v l = l := by
  fun_induction insert k v l with
  | case1 => cases h
  | case2 v' t => rw [lookup, if_pos rfl] at h; cases h; rfl
  | case3 k' v' t hk ih => rw [lookup, if_neg hk] at h; rw [ih h]

theorem lookup_filter_key (q : α → Bool) (l : AList α β) (a : α) :
    lookup a (l.filter (fun p => q p.1)) = if q a then lookup a l else none := by
  induction l with
  | nil => simp [lookup]
  | cons hd t ih =>
    obtain ⟨k, v⟩ := hd
    by_cases hk : k = a
    · subst hk; cases hq : q k <;> simp [hq, lookup, ih]
    · cases hq : q k <;> simp [hq, lookup, hk, ih]

theorem lookup_filter_val (q : β → Bool) {l : AList α β} (a : α) (h : NodupKeys l) :
    lookup a (l.filter (fun p => q p.2)) = (lookup a l).bind (fun v => if q v then some v else none) := by
  induction l with
  | nil => rfl
  | cons hd t ih =>
    obtain ⟨k, v⟩ := hd
    rw [nodupKeys_cons] at h
    by_cases hk : k = a
    · subst hk
      have : lookup k t = none := lookup_eq_none_iff.2 h.1
      cases hq : q v <;> simp [hq, lookup, ih h.2, this]
    · cases hq : q v <;> simp [hq, lookup, hk, ih h.2]

end AList
end Exa
