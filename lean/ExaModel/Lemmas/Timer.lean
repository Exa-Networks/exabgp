import ExaModel.Model.Timer
/-!
# M-Timer — one `_main` iteration in closed form; whole seconds against the millisecond clock
-/
namespace Exa.Timer
open Exa.Generated

theorem kaDivisor_eq : TimerTable.kaDivisor = 3 := rfl
theorem keepaliveType_eq : TimerTable.keepaliveType = 4 := rfl
theorem holdNotify_eq : TimerTable.holdNotify = (4, 0) := rfl
theorem h0KaNotify_eq : TimerTable.h0KaNotify = (2, 6) := rfl

theorem keepaliveOf_eq (h : Nat) : keepaliveOf h = h / 3 := rfl

theorem ms_lt_of_secs_lt {a b h : Nat} (hlt : a / 1000 + h < b / 1000) : a + h * 1000 < b := by omega
theorem ms_lt_of_secs_lt_add {a b k : Nat} (hlt : b / 1000 < a / 1000 + k) : b < a + k * 1000 := by omega

theorem checkKaTimer_real (r : Recv) (t : Nat) (k : Kind) (hh : r.hold ≠ 0) (hr : k.real = true) :
    r.checkKaTimer t k = ({ r with lastRead := secs t, lastPrint := secs t }, .ret true) := by
  simp [Recv.checkKaTimer, hh, hr]

theorem checkKa_pos (r : Recv) (t : Nat) (k : Kind) (hh : r.hold ≠ 0) :
    r.checkKa t k =
      if k.real = true then ({ r with lastRead := secs t, lastPrint := secs t }, none)
      else if r.lastRead + r.hold < secs t then (r, some (r.code, r.sub))
      else ({ r with lastPrint := secs t }, none) := by
  unfold Recv.checkKa Recv.checkKaTimer
  by_cases hr : k.real = true
  · simp [hh, hr]
  · by_cases he : r.lastRead + r.hold < secs t <;> simp [hh, hr, he, Nat.lt_sub_iff_add_lt']

theorem checkKa_zero (r : Recv) (t : Nat) (k : Kind) (hh : r.hold = 0) :
    r.checkKa t k =
      if k.isKeepalive = true then
        (if r.single = true then (r, some TimerTable.h0KaNotify) else ({ r with single := true }, none))
      else (r, none) := by
  unfold Recv.checkKa Recv.checkKaTimer
  cases k.isKeepalive <;> simp [hh]

theorem needKa_zero (s : Send) (t : Nat) (hk : s.keepalive = 0) : s.needKa t = (s, false) :=
  if_pos hk

theorem needKa_keepalive (s : Send) (t : Nat) : (s.needKa t).1.keepalive = s.keepalive := by
  fun_cases Send.needKa s t <;> rfl

theorem needKa_cases (s : Send) (t : Nat) :
    ((s.needKa t).2 = true ∧ s.keepalive ≠ 0 ∧ s.lastSent + s.keepalive ≤ secs t ∧ (s.needKa t).1.lastSent = secs t) ∨
    ((s.needKa t).2 = false ∧ (s.keepalive = 0 ∨ secs t < s.lastSent + s.keepalive) ∧
      (s.needKa t).1.lastSent = s.lastSent) := by
  fun_cases Send.needKa s t
  case case1 hk => exact .inr ⟨rfl, .inl hk, rfl⟩
  case case2 hk _ _ hd => exact .inl ⟨rfl, hk, hd, rfl⟩
  case case3 hk _ _ hd => exact .inr ⟨rfl, .inr (Nat.lt_of_not_le hd), rfl⟩

theorem poll_closed (s : Sess) (p : Poll) (h : s.closed.isSome = true) : s.poll p = (s, .dead) :=
  if_pos h

theorem poll_open (s : Sess) (p : Poll) (hc : s.closed = none) :
    s.poll p =
      match s.recv.checkKa p.t p.kind with
      | (r1, some (c, sb)) => ({ s with recv := r1, closed := some (p.t, c, sb) }, .notify c sb)
      | (r1, none) =>
        ({ s with recv := r1, send := (s.send.needKa p.t).1 }, if (s.send.needKa p.t).2 = true then .ka else .idle) := by
  unfold Sess.poll
  rw [hc, if_neg (by simp)]
  rcases s.recv.checkKa p.t p.kind with ⟨r1, _ | ⟨c, sb⟩⟩
  · rcases s.send.needKa p.t with ⟨s1, _ | _⟩ <;> rfl
  · rfl

theorem poll_pos (s : Sess) (p : Poll) (hc : s.closed = none) (hh : s.recv.hold ≠ 0) :
    s.poll p =
      if p.kind.real = false ∧ s.recv.lastRead + s.recv.hold < secs p.t then
        ({ s with closed := some (p.t, s.recv.code, s.recv.sub) }, .notify s.recv.code s.recv.sub)
      else
        ({ s with recv := { s.recv with lastRead := if p.kind.real = true then secs p.t else s.recv.lastRead,
                                        lastPrint := secs p.t },
                  send := (s.send.needKa p.t).1 },
         if (s.send.needKa p.t).2 = true then .ka else .idle) := by
  rw [poll_open s p hc, checkKa_pos _ _ _ hh]
  cases p.kind.real
  · by_cases he : s.recv.lastRead + s.recv.hold < secs p.t <;> simp [he]
  · simp

theorem poll_zero (s : Sess) (p : Poll) (hc : s.closed = none) (hh : s.recv.hold = 0)
    (hk : s.send.keepalive = 0) :
    s.poll p =
      if p.kind.isKeepalive = true ∧ s.recv.single = true then
        ({ s with closed := some (p.t, TimerTable.h0KaNotify.1, TimerTable.h0KaNotify.2) },
          .notify TimerTable.h0KaNotify.1 TimerTable.h0KaNotify.2)
      else
        ({ s with recv := { s.recv with single := s.recv.single || p.kind.isKeepalive } }, .idle) := by
  rw [poll_open s p hc, checkKa_zero _ _ _ hh, needKa_zero _ _ hk]
  cases p.kind.isKeepalive
  · simp
  · cases s.recv.single <;> simp
end Exa.Timer
