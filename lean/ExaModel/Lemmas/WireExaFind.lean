import ExaModel.Lemmas.WireExaWF
import ExaModel.Lemmas.WireExaSpec
/-!
  M-Wire-Exa: looking an attribute up in the block (`findSome?` over the slots of
  the packing loop), M-Wire's finders and the canonical report as such look-ups.
-/
namespace Exa.WireExa
open Exa Exa.Wire

-- What M-Wire's finders (`findAs4Path`, `findAgg`, `findAgg4`, `findNextHop`) read off one attribute.
def gAs4 (a : Attr) : Option (List Seg) := match a.val with | .as4Path s => some s | _ => none
def gAgg (a : Attr) : Option (Nat × Nat) := match a.val with | .aggregator x y => some (x, y) | _ => none
def gAgg4 (a : Attr) : Option (Nat × Nat) := match a.val with | .as4Aggregator x y => some (x, y) | _ => none
def gNh (a : Attr) : Option Nat := match a.val with | .nextHop ip => some ip | _ => none

theorem find_eq_findSome {β : Type} (find : List Attr → Option β) (g : Attr → Option β) (h0 : find [] = none)
    (hc : ∀ a t, find (a :: t) = match g a with | some x => some x | none => find t) (l : List Attr) :
    find l = l.findSome? g := by
  induction l with
  | nil => exact h0
  | cons a t ih => rw [hc, List.findSome?_cons, ih]; cases g a <;> rfl

theorem findAs4Path_eq (l : List Attr) : findAs4Path l = l.findSome? gAs4 :=
  find_eq_findSome _ _ rfl (fun a t => by obtain ⟨f, v⟩ := a; cases v <;> rfl) l

theorem findAgg_eq (l : List Attr) : findAgg l = l.findSome? gAgg :=
  find_eq_findSome _ _ rfl (fun a t => by obtain ⟨f, v⟩ := a; cases v <;> rfl) l

theorem findAgg4_eq (l : List Attr) : findAgg4 l = l.findSome? gAgg4 :=
  find_eq_findSome _ _ rfl (fun a t => by obtain ⟨f, v⟩ := a; cases v <;> rfl) l

theorem findNextHop_eq (l : List Attr) : findNextHop l = l.findSome? gNh :=
  find_eq_findSome _ _ rfl (fun a t => by obtain ⟨f, v⟩ := a; cases v <;> rfl) l

theorem gAs4_none (a : Attr) (h : a.code ≠ 17) : gAs4 a = none := by
  fun_cases gAs4 a
  case case1 hv => exact absurd (by unfold Attr.code; rw [hv]; rfl) h
  case case2 => rfl
theorem gAgg_none (a : Attr) (h : a.code ≠ 7) : gAgg a = none := by
  fun_cases gAgg a
  case case1 hv => exact absurd (by unfold Attr.code; rw [hv]; rfl) h
  case case2 => rfl
theorem gAgg4_none (a : Attr) (h : a.code ≠ 18) : gAgg4 a = none := by
  fun_cases gAgg4 a
  case case1 hv => exact absurd (by unfold Attr.code; rw [hv]; rfl) h
  case case2 => rfl
theorem gNh_none (a : Attr) (h : a.code ≠ 3) : gNh a = none := by
  fun_cases gNh a
  case case1 hv => exact absurd (by unfold Attr.code; rw [hv]; rfl) h
  case case2 => rfl

def gRaw (c : Nat) (a : Attr) : Option AttrVal := if a.code == c then some a.val else none

theorem gRaw_none (c : Nat) (a : Attr) (h : a.code ≠ c) : gRaw c a = none := by
  simp [gRaw, h]

theorem rawAttr_eq (u : UpdateSem) (c : Nat) : rawAttr u c = u.attrs.findSome? (gRaw c) := by
  unfold rawAttr
  induction u.attrs with
  | nil => rfl
  | cons a t ih =>
    simp only [List.find?_cons, List.findSome?_cons, gRaw]
    cases h : (a.code == c) <;> simp [ih]

theorem find_insertVal (v : AttrVal) (l : List AttrVal) (c : Nat) :
    (insertVal v l).find? (fun w => w.code == c) = if v.code == c then some v else l.find? (fun w => w.code == c) := by
  induction l with
  | nil => simp [insertVal, List.find?]
  | cons w t ih =>
    unfold insertVal
    by_cases h : v.code ≤ w.code
    · simp only [h, if_true, List.find?_cons]
      cases hv : (v.code == c) <;> simp
    · simp only [h, if_false, List.find?_cons, ih]
      cases hw : (w.code == c)
      · simp
      · have hw' : w.code = c := by simpa using hw
        have hv : (v.code == c) = false := by
          simp only [beq_eq_false_iff_ne]; omega
        simp [hv]

theorem find_sortVals (l : List AttrVal) (c : Nat) :
    (sortVals l).find? (fun w => w.code == c) = l.find? (fun w => w.code == c) := by
  induction l with
  | nil => rfl
  | cons v t ih =>
    simp only [sortVals, find_insertVal, ih, List.find?_cons]
    cases (v.code == c) <;> simp

/-- What attribute `a` contributes to the report under type code `c`. -/
def repAt (R : Attr → Option AttrVal) (c : Nat) (a : Attr) : Option AttrVal :=
  match R a with
  | some v => if v.code == c then some v else none
  | none => none

theorem find_filterMap (R : Attr → Option AttrVal) (l : List Attr) (c : Nat) :
    (l.filterMap R).find? (fun w => w.code == c) = l.findSome? (repAt R c) := by
  induction l with
  | nil => rfl
  | cons a t ih =>
    simp only [List.filterMap_cons, List.findSome?_cons, repAt]
    cases hR : R a with
    | none => simp [ih]
    | some v =>
      simp only [List.find?_cons]
      cases hv : (v.code == c) <;> simp [ih]

theorem reportAttr_eq (p : Params) (u : UpdateSem) (c : Nat) :
    reportAttr p u c = u.attrs.findSome? (repAt (reportVal p u.attrs) c) := by
  simp only [reportAttr, report, find_sortVals, find_filterMap]

theorem reportVal_code (p : Params) (as : List Attr) (a : Attr) (v : AttrVal)
    (h : reportVal p as a = some v) : v.code = a.code := by
  unfold Attr.code
  revert h
  -- along `reportVal`: whatever is reported has the constructor of `a.val`
  fun_cases reportVal p as a <;> intro h <;> cases h
  case case18 => rfl  -- `| v => some v`
  all_goals simp only [‹a.val = _›, AttrVal.code]

theorem repAt_none (p : Params) (as : List Attr) (c : Nat) (a : Attr) (h : a.code ≠ c) :
    repAt (reportVal p as) c a = none := by
  unfold repAt
  cases hR : reportVal p as a with
  | none => rfl
  | some v =>
    have := reportVal_code p as a v hR
    have hv : (v.code == c) = false := by simp only [beq_eq_false_iff_ne]; omega
    simp [hv]

theorem findSome_none_of_all {β : Type} (l : List Attr) (g : Attr → Option β) (h : ∀ a ∈ l, g a = none) :
    l.findSome? g = none :=
  List.findSome?_eq_none_iff.2 h

theorem findSome_append {β : Type} (a b : List Attr) (g : Attr → Option β) :
    (a ++ b).findSome? g = match a.findSome? g with | some x => some x | none => b.findSome? g := by
  rw [List.findSome?_append]; cases a.findSome? g <;> rfl

theorem findSome_flatMap_none {β : Type} (ks : List Nat) (sem : Nat → List Attr) (g : Attr → Option β)
    (h : ∀ k ∈ ks, ∀ a ∈ sem k, g a = none) : (ks.flatMap sem).findSome? g = none := by
  apply findSome_none_of_all
  intro a ha
  simp only [List.mem_flatMap] at ha
  obtain ⟨k, hk, hk'⟩ := ha
  exact h k hk a hk'

theorem findSome_flatMap_one {β : Type} (ks : List Nat) (sem : Nat → List Attr) (g : Attr → Option β) (k : Nat)
    (hnd : ks.Nodup) (hk : k ∈ ks) (h : ∀ k' ∈ ks, k' ≠ k → ∀ a ∈ sem k', g a = none) :
    (ks.flatMap sem).findSome? g = (sem k).findSome? g := by
  induction ks with
  | nil => cases hk
  | cons k0 t ih =>
    simp only [List.flatMap_cons, findSome_append]
    simp only [List.nodup_cons] at hnd
    by_cases e : k0 = k
    · subst e
      have : (t.flatMap sem).findSome? g = none := by
        apply findSome_flatMap_none
        intro k' hk' a ha
        exact h k' (List.mem_cons_of_mem _ hk') (by intro e; subst e; exact hnd.1 hk') a ha
      rw [this]
      cases (sem k0).findSome? g <;> rfl
    · have h0 : (sem k0).findSome? g = none :=
        findSome_none_of_all _ _ (fun a ha => h k0 (by simp) e a ha)
      rw [h0]
      simp only
      rcases List.mem_cons.1 hk with hk | hk
      · exact absurd hk.symm e
      · exact ih hnd.2 hk (fun k' hk' => h k' (List.mem_cons_of_mem _ hk'))

theorem codeOrder_nodup : codeOrder.Nodup := by decide +kernel

/-- The slot of the packing loop that emits type code `c`. -/
def slotOf (c : Nat) : Nat := if c = 17 then 2 else if c = 18 then 7 else c

theorem slotOf_of_mem_slotCodes : ∀ k ∈ codeOrder, ∀ x ∈ slotCodes k, slotOf x = k := by decide +kernel

theorem find_semAll_slot {β : Type} (p : SessParams) (r : RouteReq) (nh : Bytes) (g : Attr → Option β) (c : Nat)
    (hg : ∀ a, a.code ≠ c → g a = none) (hk : slotOf c ∈ codeOrder) :
    (semAll p r nh).findSome? g = (semCode p r nh (slotOf c)).findSome? g := by
  unfold semAll
  apply findSome_flatMap_one _ _ _ _ codeOrder_nodup hk
  intro k' hk' hne a ha
  exact hg a fun e => hne (e ▸ slotOf_of_mem_slotCodes k' hk' _ (code_mem_slotCodes p r nh k' a ha)).symm

theorem find_semAll_none {β : Type} (p : SessParams) (r : RouteReq) (nh : Bytes) (g : Attr → Option β) (c : Nat)
    (hg : ∀ a, a.code ≠ c → g a = none) (hk : slotOf c ∉ codeOrder) :
    (semAll p r nh).findSome? g = none := by
  unfold semAll
  apply findSome_flatMap_none
  intro k' hk' a ha
  exact hg a fun e => hk (e ▸ (slotOf_of_mem_slotCodes k' hk' _ (code_mem_slotCodes p r nh k' a ha)).symm ▸ hk')

theorem findSome_append_tail {β : Type} (a b : List Attr) (g : Attr → Option β) (h : ∀ x ∈ b, g x = none) :
    (a ++ b).findSome? g = a.findSome? g := by
  rw [findSome_append, findSome_none_of_all b g h]
  cases a.findSome? g <;> rfl

end Exa.WireExa
