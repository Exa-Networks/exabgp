import ExaModel.Model.Nego
import ExaModel.Generated.PyNego
/-!
# M-Nego — the model's `validateOpen` computes what the translated `Negotiated.validate` computes

`Generated/PyNego.lean` is `Negotiated.validate` of /repo translated statement by statement on every run
(`harness/pylite.py`); its inputs are the AS numbers, the hold time of the peer's OPEN and three facts
computed elsewhere (identifier 0.0.0.0, identifier equal to ours, the multisession verdict).

The proofs bring the tests of the translated code to the model's conditions by small facts about variables (`==`/`!=`,
`min`/a conditional, integers/naturals); for `_negotiate` both sides are then evaluated on the values of those
conditions and not compared as terms, so that a rewrite of the Python that keeps the meaning still proves.
-/
-- spellings of a test that the Python does not use today stay among the `simp` arguments
set_option linter.unusedSimpArgs false
namespace Exa.Open
open Exa.Generated Exa.Generated.PyNego

/-- the multisession verdict as `validate` looks at it: `isinstance(self.multisession, tuple)` and the tuple -/
def MS.refused : MS → Bool
  | .err _ _ => true
  | _ => false
def MS.code : MS → Int
  | .err c _ => c
  | _ => 0
def MS.sub : MS → Int
  | .err _ s => s
  | _ => 0

/-- a model verdict as a result of the translated method -/
def liftValidate : Option Err → PyRes NegotiatedSt Unit
  | none => .ret () ⟨⟩
  | some e => .raise e.code e.sub

theorem ite_of_iff {α : Type} {b : Bool} {P : Prop} [Decidable P] (h : b = true ↔ P) (x y : α) :
    (if b = true then x else y) = if P then x else y := by
  by_cases hp : P
  · rw [if_pos hp, if_pos (h.2 hp)]
  · rw [if_neg hp, if_neg (fun hb => hp (h.1 hb))]

/-- a comparison of two naturals made on integers, as a Boolean -/
theorem natCast_beq (a b : Nat) : ((a : Int) == (b : Int)) = decide (a = b) := by
  by_cases h : a = b <;> simp [h] <;> omega
theorem natCast_bne (a b : Nat) : ((a : Int) != (b : Int)) = !decide (a = b) := by rw [bne, natCast_beq]
theorem natCast_beq_zero (a : Nat) : ((a : Int) == 0) = decide (a = 0) := natCast_beq a 0
theorem natCast_bne_zero (a : Nat) : ((a : Int) != 0) = !decide (a = 0) := natCast_bne a 0

/-- `Negotiated.validate` as translated from /repo = `validateOpen` of the model, for every configuration,
    negotiated state and peer OPEN. -/
theorem py_validate_eq_model (cfg : Cfg) (n : Negotiated) (theirs : OpenMsg) :
    PyNego.Negotiated.validate ⟨⟩ cfg.peerAs n.peerAs (decide (theirs.bgpId = 0)) cfg.localAs
        (decide (theirs.bgpId = cfg.routerId)) theirs.hold n.multisession.refused n.multisession.code n.multisession.sub =
      liftValidate (validateOpen cfg n theirs) := by
  -- the model's four conditions as Booleans over seven comparisons of naturals
  have m1 : (!decide (cfg.peerAs = 0) && !decide (n.peerAs = cfg.peerAs)) = true ↔ cfg.peerAs ≠ 0 ∧ n.peerAs ≠ cfg.peerAs := by
    simp
  have m3 : (decide (n.peerAs = cfg.localAs) && decide (theirs.bgpId = cfg.routerId)) = true ↔
      n.peerAs = cfg.localAs ∧ theirs.bgpId = cfg.routerId := by simp
  have m4 : (!decide (theirs.hold = 0) && decide (theirs.hold < 3)) = true ↔ theirs.hold ≠ 0 ∧ theirs.hold < holdMin := by
    simp [holdMin]
  have a7 : decide ((theirs.hold : Int) < 3) = decide (theirs.hold < 3) := decide_eq_decide.2 (by omega)
  have model : liftValidate (validateOpen cfg n theirs) =
      if (!decide (cfg.peerAs = 0) && !decide (n.peerAs = cfg.peerAs)) = true then .raise 2 2
      else if decide (theirs.bgpId = 0) = true then .raise 2 3
      else if (decide (n.peerAs = cfg.localAs) && decide (theirs.bgpId = cfg.routerId)) = true then .raise 2 3
      else if (!decide (theirs.hold = 0) && decide (theirs.hold < 3)) = true then .raise 2 6
      else if n.multisession.refused = true then .raise n.multisession.code n.multisession.sub else .ret () ⟨⟩ := by
    unfold validateOpen
    rw [← ite_of_iff m1, ← ite_of_iff (decide_eq_true_iff (p := theirs.bgpId = 0)), ← ite_of_iff m3, ← ite_of_iff m4]
    simp only [apply_ite liftValidate]
    cases n.multisession <;> rfl
  -- the tests of the code are the same comparisons made on integers; both sides are then evaluated on the values of
  -- the comparisons in the order of the model's tests, so the proof does not follow how the `if`s of the code nest
  rw [model]
  simp only [PyNego.Negotiated.validate, natCast_beq, natCast_bne, natCast_beq_zero, natCast_bne_zero, a7, gt_iff_lt]
  generalize decide (cfg.peerAs = 0) = z
  generalize decide (n.peerAs = cfg.peerAs) = p
  generalize decide (theirs.bgpId = 0) = i
  generalize decide (n.peerAs = cfg.localAs) = l
  generalize decide (theirs.bgpId = cfg.routerId) = o
  generalize decide (theirs.hold = 0) = h
  generalize decide (theirs.hold < 3) = k
  generalize n.multisession.refused = f
  cases z <;> cases p <;> simp <;> cases i <;> simp <;> cases l <;> cases o <;> simp <;> cases h <;> cases k <;> simp <;>
    cases f <;> simp

/-! ## The scalar part of `Negotiated._negotiate`

`Generated/PyNego.lean` also holds the slice of `_negotiate` that computes the scalar fields (hold time, asn4,
operational, the two AS numbers, the route-refresh flavour, the message size, link-local next hop), translated
statement by statement; what it reads of the two OPENs are inputs named by their source text.  They are
instantiated here with what `capSet` of the model holds: `caps.announced(code)` is "the entry is there",
`caps.get(FOUR_BYTES_ASN)` is an `ASN` exactly when it is there. -/

def Refresh.code : Refresh → Int
  | .absent => 1 | .normal => 2 | .enhanced => 4

/-- the scalar fields of the model's result as the state of the translated method -/
def scalarsOf (n : Negotiated) : NegotiatingSt :=
  { holdtime := n.hold, asn4 := n.asn4, operational := n.operational, local_as := n.localAs, peer_as := n.peerAs,
    refresh := n.refresh.code, msg_size := n.msgSize, linklocal_nexthop := n.linkLocal }

/-- The scalar fields of `negotiateSets` in the vocabulary of the translated method: integers, and each
    capability as the pair of inputs the code reads (`announced`, the value when it is an `ASN`). -/
theorem scalarsOf_negotiateSets (oursAs oursHold theirsAs theirsHold : Nat) (s r : CapSet) :
    scalarsOf (negotiateSets oursAs oursHold theirsAs theirsHold s r) =
      { holdtime := min (oursHold : Int) theirsHold
        asn4 := s.asn4.isSome && r.asn4.isSome
        operational := s.operational && r.operational
        local_as := if s.asn4.isSome then ((s.asn4.getD 0 : Nat) : Int) else oursAs
        peer_as := if decide (theirsAs = 23456) && (s.asn4.isSome && r.asn4.isSome) && r.asn4.isSome
                   then ((r.asn4.getD 0 : Nat) : Int) else theirsAs
        refresh := if r.enhanced && s.enhanced then 4 else if r.refresh && s.refresh then 2 else 1
        msg_size := if r.extMsg && s.extMsg then 65535 else 4096
        linklocal_nexthop := s.linkLocal && r.linkLocal } := by
  simp only [scalarsOf, negotiateSets, NegotiatingSt.mk.injEq, true_and, and_true, asTrans]
  refine ⟨by omega, ?_, ?_, ?_, ?_⟩
  · cases s.asn4 <;> rfl
  · by_cases ht : theirsAs = 23456 <;> cases s.asn4 <;> cases r.asn4 <;> simp [ht]
  · cases r.enhanced && s.enhanced <;> cases r.refresh && s.refresh <;> rfl
  · cases r.extMsg && s.extMsg <;> rfl

/-- the minimum of two integers as a conditional, either test, either way round -/
theorem ite_lt_min (a b : Int) : (if b < a then b else a) = min a b := by split <;> omega
theorem ite_lt_min' (a b : Int) : (if a < b then a else b) = min a b := by split <;> omega
theorem ite_le_min (a b : Int) : (if a ≤ b then a else b) = min a b := by split <;> omega
theorem ite_le_min' (a b : Int) : (if b ≤ a then b else a) = min a b := by split <;> omega

/-- **`_negotiate` as translated from /repo computes the scalar fields of `negotiateSets`**, for every pair of
    capability sets, AS-number fields and hold times, from the state `Negotiated.__init__` leaves
    (refresh ABSENT, message size 4096). -/
theorem py_negotiate_scalars_eq_model (oursAs oursHold theirsAs theirsHold : Nat) (s r : CapSet) (st0 : NegotiatingSt)
    (hr : st0.refresh = PyNego.refreshAbsent) (hm : st0.msg_size = PyNego.initialSize) :
    PyNego.Negotiating.negotiate_scalars st0 oursHold theirsHold oursAs theirsAs
        ((s.asn4.getD 0 : Nat) : Int) ((r.asn4.getD 0 : Nat) : Int) s.asn4.isSome r.asn4.isSome
        s.asn4.isSome r.asn4.isSome s.operational r.operational s.enhanced r.enhanced s.refresh r.refresh
        s.extMsg r.extMsg s.linkLocal r.linkLocal =
      .ret () (scalarsOf (negotiateSets oursAs oursHold theirsAs theirsHold s r)) := by
  have htr : ((theirsAs : Int) == 23456) = decide (theirsAs = 23456) := by
    by_cases h : theirsAs = 23456 <;> simp [h] <;> omega
  have htr' : ((theirsAs : Int) != 23456) = !decide (theirsAs = 23456) := by rw [bne, htr]
  rw [scalarsOf_negotiateSets]
  -- the test for AS_TRANS on integers is the model's on naturals and the hold time is the minimum however it is
  -- written; after that the two sides differ only in how the `if`s nest, so the proof does not follow them but
  -- evaluates both sides on every value of the six tests
  simp only [PyNego.Negotiating.negotiate_scalars, hr, hm, PyNego.refreshAbsent, PyNego.initialSize, htr, htr',
    decide_eq_true_eq, ite_lt_min, ite_lt_min', ite_le_min, ite_le_min', Int.min_comm (theirsHold : Int) oursHold,
    Bool.and_comm s.enhanced r.enhanced, Bool.and_comm s.refresh r.refresh, Bool.and_comm s.extMsg r.extMsg,
    Bool.and_comm r.linkLocal s.linkLocal, Bool.and_comm r.operational s.operational]
  generalize decide (theirsAs = 23456) = t
  generalize s.asn4.isSome = s4
  generalize r.asn4.isSome = r4
  generalize (r.enhanced && s.enhanced) = e
  generalize (r.refresh && s.refresh) = n
  generalize (r.extMsg && s.extMsg) = x
  cases t <;> cases s4 <;> cases r4 <;> cases e <;> cases n <;> cases x <;> simp

/-- what `decodeOpen` does before it reads the optional parameters -/
def openFront (body : Bytes) : Option Err :=
  if body.length < 10 then some ⟨1, 2⟩ else if body.getD 0 0 ≠ 4 then some ⟨2, 1⟩ else none

theorem decodeOpen_front (body : Bytes) (e : Err) (h : openFront body = some e) : decodeOpen body = .error e := by
  revert h
  fun_cases openFront body <;> intro h <;> cases h
  case case1 h1 => rw [decodeOpen, if_pos h1]
  case case2 h1 h2 => rw [decodeOpen, if_neg h1, if_pos h2]

/-- **`Open.unpack_message` as translated from /repo refuses exactly what `decodeOpen` refuses before it reads the
    optional parameters**, with the same NOTIFICATION (1/2 for a body shorter than the fixed part, 2/1 for a version
    other than 4), on what the model reads off the same bytes. -/
theorem py_open_fixed_eq_model (body : Bytes) :
    PyNego.OpenFixed.unpack_message ⟨⟩ body.length (body.getD 0 0) =
      (match openFront body with | some e => .raise e.code e.sub | none => .ret true ⟨⟩) := by
  -- the two tests on integers are the model's on naturals
  have c1 : ((body.length : Int) < 10) ↔ body.length < 10 := by omega
  have c2 : ((body.getD 0 0 : Int) = 4) ↔ body.getD 0 0 = 4 := by omega
  simp only [PyNego.OpenFixed.unpack_message, openFront, decide_eq_true_eq, bne_iff_ne, ne_eq, c1, c2]
  split
  · rfl
  · split <;> rfl

end Exa.Open
