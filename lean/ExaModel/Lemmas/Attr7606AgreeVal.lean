/-
  M-Attr7606 vs M-Wire, value level: the value decoders of the model of ExaBGP accept every value the reference
  encoder produces for a well-formed attribute (under the side conditions `ValAccepts`), the lenient segment
  parser reads reference-encoded paths back, and `mergeExa` is `merge6793`.
-/
import ExaModel.Lemmas.Attr7606Top
import ExaModel.Lemmas.WireTlv
import ExaModel.Lemmas.WireMerge

namespace Exa.Attr7606
open Exa Exa.Wire
open Exa.Generated.AttrTable (Row)

/-- ExaBGP's segment parser reads a reference-encoded well-formed path back. -/
theorem exaParseSegs_encSegs (seg0 w4 : Bool) (segs : List Seg) (h : ∀ s ∈ segs, WFSeg w4 s) (fuel : Nat)
    (hf : (encSegs w4 segs).length ≤ fuel) : exaParseSegs seg0 w4 fuel (encSegs w4 segs) = some segs := by
  induction segs generalizing fuel with
  | nil => cases fuel <;> rfl
  | cons s t ih =>
    obtain ⟨h1, h2, h3, h4, h5⟩ := h s (by simp)
    rw [encSegs_cons] at hf ⊢
    cases fuel with
    | zero => simp at hf
    | succ f =>
      rw [exaParseSegs]
      have c1 : ¬ (s.1 = 0 ∨ s.1 > 4) := by omega
      have c2 : ¬ (s.2.length = 0 ∧ seg0 = true) := by omega
      rw [if_neg c1, if_neg c2, decAsns_encAsns w4 s.2 h5]
      simp only
      rw [ih (fun x hx => h x (List.mem_cons_of_mem _ hx)) f (by simp at hf; omega)]

theorem exaSegs_encSegs (seg0 w4 : Bool) (segs : List Seg) (h : ∀ s ∈ segs, WFSeg w4 s) (fuel : Nat)
    (hf : (encSegs w4 segs).length ≤ fuel) : exaSegs seg0 w4 fuel (encSegs w4 segs) = true := by
  rw [exaSegs_eq_isSome, exaParseSegs_encSegs seg0 w4 segs h fuel hf]; rfl

theorem countExa_eq (s : List Seg) : countExa s = pathCount s := by
  induction s with
  | nil => rfl
  | cons x t ih => simp [countExa, pathCount, segCount, ih]

theorem keepExa_eq (s : List Seg) (k : Nat) : keepExa k s = takeUnits k s := by
  fun_induction keepExa k s <;> simp [takeUnits, *]

/-- The model of ExaBGP's `merge_attributes` (as repaired by 72add9c) IS the RFC 6793 §4.2.3 reference merge. -/
theorem mergeExa_eq_merge6793 (as2 as4 : List Seg) : mergeExa as2 as4 = merge6793 as2 as4 := by
  unfold mergeExa merge6793 plainSegs
  rw [countExa_eq, countExa_eq, keepExa_eq]

/-- What the value decoders of ExaBGP ask of a well-formed value beyond the reference's `WFVal`: MP families
    negotiated, no RFC 8950 next hops negotiated (outside the model), a next-hop length the family allows, a zero
    route distinguisher in a VPN next hop, at least one NLRI in MP_REACH_NLRI. Unrecognised attributes and
    families outside AFI 1/2 × SAFI 1, 2, 4, 128 are not decoded by value at all. -/
def ValAccepts (xp : XP) : AttrVal → Prop
  | .mpReach afi safi nh ns =>
      xp.families.contains (afi, safi) = true ∧ xp.p.extnh = [] ∧ nhLenOk xp.p afi safi nh.length = true ∧
      (safi = 128 → sumBytes (nh.take 8) = 0) ∧ ns ≠ []
  | .mpUnreach afi safi _ => xp.families.contains (afi, safi) = true
  | .mpReachRaw .. => False
  | .mpUnreachRaw .. => False
  | .unknown .. => False
  | _ => True

theorem encNlris_ne_nil (safi : Nat) (wd : Bool) (ns : List Nlri) (h : ns ≠ []) : 0 < (encNlris safi wd ns).length := by
  cases ns with
  | nil => exact absurd rfl h
  | cons n t => simp [encNlris, encNlri]; omega

theorem mpSize_supported (p : Params) (afi safi len : Nat) (hs : supported afi safi = true) (hx : p.extnh = [])
    (hl : nhLenOk p afi safi len = true) :
    ∃ lens rd, mpSize afi safi = some (lens, rd) ∧ lens.contains len = true ∧ (rd ≠ 0 → safi = 128 ∧ 8 ≤ len) := by
  simp only [supported, Bool.and_eq_true, Bool.or_eq_true, beq_iff_eq] at hs
  obtain ⟨rfl | rfl, hsafi⟩ := hs <;> simp [nhLenOk, hx] at hl
  · -- AFI 1: the one length `nhLenOk` allows is the one of the table
    subst hl
    rcases hsafi with ((rfl | rfl) | rfl) | rfl <;> exact ⟨_, _, rfl, rfl, by decide⟩
  · -- AFI 2: the two it allows are among the table's
    rcases hl with rfl | rfl <;> rcases hsafi with ((rfl | rfl) | rfl) | rfl <;> exact ⟨_, _, rfl, rfl, by decide⟩

/-- `MPRNLRI.unpack_attribute` on the reference layout of MP_REACH_NLRI: family, next-hop length, next hop,
    reserved octet, NLRI field. -/
theorem exaMpReach_enc (xp : XP) (afi safi : Nat) (nh rest : Bytes) (ha : afi < 65536)
    (hfam : xp.families.contains (afi, safi) = true) (hx : xp.p.extnh = []) {lens : List Nat} {rd : Nat}
    (hms : mpSize afi safi = some (lens, rd)) (hlc : lens.contains nh.length = true)
    (hrd : rd ≠ 0 → sumBytes (nh.take 8) = 0 ∧ 8 ≤ nh.length) (hne : 0 < rest.length) :
    exaMpReach xp (be16 afi ++ (safi :: nh.length :: (nh ++ 0 :: rest))) = .ok := by
  generalize hv : be16 afi ++ (safi :: nh.length :: (nh ++ 0 :: rest)) = v
  have e1 : rd16 v = afi := hv ▸ rd16_be16 afi ha _
  have e2 : v.getD 2 0 = safi := hv ▸ rfl
  have e3 : v.getD 3 0 = nh.length := hv ▸ rfl
  have d4 : v.drop 4 = nh ++ 0 :: rest := hv ▸ rfl
  have el : v.length = 5 + nh.length + rest.length := by rw [← hv]; simp; omega
  have er : v.getD (4 + nh.length) 0 = 0 := by
    rw [← hv]
    show ((be16 afi ++ [safi, nh.length]) ++ (nh ++ 0 :: rest))[4 + nh.length]?.getD 0 = 0
    rw [List.getElem?_append_right (by simp), List.getElem?_append_right (by simp)]
    simp
  unfold exaMpReach
  rw [e3, e2, el, e1, d4, er]
  have c1 : ¬ 5 + nh.length + rest.length < 5 := by omega
  have c2 : ¬ 5 + nh.length + rest.length < 5 + nh.length := by omega
  have c3 : ¬ 5 + nh.length + rest.length ≤ 5 + nh.length := by omega
  simp only [c1, c2, c3, hfam, hx, hms, hlc, if_false, Bool.not_true, Bool.false_eq_true, List.isEmpty_nil]
  by_cases hr0 : rd = 0
  · simp [hr0]
  · obtain ⟨hz, h8⟩ := hrd hr0
    rw [List.take_append_of_le_length h8, hz]
    simp

theorem valOutcome_enc (fx : Fix) (xp : XP) (v : AttrVal) (hwf : WFVal xp.p v) (hacc : ValAccepts xp v) :
    valOutcome fx xp v.code (encVal xp.p v) = .ok := by
  cases v with
  | nextHop _ | med _ | localPref _ | atomicAggregate | originatorId _ | as4Aggregator _ _ => rfl
  | aggregator asn ip => cases h4 : xp.p.asn4 <;> simp [valOutcome, AttrVal.code, encVal, encAsn, h4]
  | origin o => simp [WFVal] at hwf; simp [valOutcome, AttrVal.code, encVal]; omega
  | asPath segs =>
    simp only [AttrVal.code, valOutcome, Nat.reduceEqDiff, ↓reduceIte, encVal,
      exaSegs_encSegs fx.seg0 xp.p.asn4 segs hwf _ (Nat.le_refl _), ite_self]
  | as4Path segs =>
    simp only [AttrVal.code, valOutcome, Nat.reduceEqDiff, ↓reduceIte, or_self, encVal,
      exaSegs_encSegs fx.seg0 true segs hwf _ (Nat.le_refl _), ite_self]
  | communities cs => simp [valOutcome, AttrVal.code, encVal, encAsns_length]
  | clusterList ids => simp [valOutcome, AttrVal.code, encVal, encAsns_length]
  | extCommunities cs => simp [valOutcome, AttrVal.code, encVal, encAsns_length, flat2_length]; omega
  | largeCommunities cs => simp [valOutcome, AttrVal.code, encVal, encAsns_length, flat3_length]; omega
  | mpReachRaw _ _ _ _ | mpUnreachRaw _ _ _ | unknown _ _ => exact absurd hacc id
  | mpUnreach afi safi ns =>
    obtain ⟨ha, _⟩ := supported_bounds afi safi hwf.1
    have e2 : (be16 afi ++ (safi :: encNlris safi true ns)).getD 2 0 = safi := rfl
    have hl : ¬ (be16 afi ++ (safi :: encNlris safi true ns)).length < 3 := by simp; omega
    simp only [ValAccepts] at hacc
    simp only [AttrVal.code, valOutcome, Nat.reduceEqDiff, ↓reduceIte, or_self, encVal, exaMpUnreach, e2, rd16_be16 afi ha, hacc, hl,
      Bool.not_true, Bool.false_eq_true]
  | mpReach afi safi nh ns =>
    obtain ⟨hs, hnh, _⟩ := hwf
    obtain ⟨hfam, hx, hlen, hrd, hne⟩ := hacc
    obtain ⟨lens, rd, hms, hlc, hrdz⟩ := mpSize_supported xp.p afi safi nh.length hs hx hlen
    simp only [AttrVal.code, valOutcome, Nat.reduceEqDiff, ↓reduceIte, or_self, encVal]
    exact exaMpReach_enc xp afi safi nh _ (supported_bounds afi safi hs).1 hfam hx hms hlc
      (fun h => ⟨hrd (hrdz h).1, (hrdz h).2⟩) (encNlris_ne_nil safi false ns hne)

/-- The list-valued attributes carry at least one element (RFC 7606 calls the empty ones malformed; the model of
    ExaBGP answers a zero-length one with treat-as-withdraw, the reference codec accepts it). -/
def NonEmptyLists : AttrVal → Prop
  | .communities cs => cs ≠ []
  | .clusterList ids => ids ≠ []
  | .extCommunities cs => cs ≠ []
  | .largeCommunities cs => cs ≠ []
  | _ => True

theorem encVal_ne_nil (p : Params) (v : AttrVal) (hc : v.code ≠ 2 ∧ v.code ≠ 6 ∧ v.code ≠ 17)
    (hl : NonEmptyLists v) (hu : ∀ c raw, v ≠ .unknown c raw) :
    (encVal p v).length ≠ 0 := by
  cases v with
  | asPath _ | atomicAggregate | as4Path _ => simp [AttrVal.code] at hc
  | communities cs | clusterList cs => cases cs <;> simp_all [encVal, encAsns, encAsn, NonEmptyLists]
  | extCommunities cs => cases cs with
    | nil => simp [NonEmptyLists] at hl
    | cons c t => obtain ⟨a, b⟩ := c; simp [encVal, flat2, encAsns, encAsn]
  | largeCommunities cs => cases cs with
    | nil => simp [NonEmptyLists] at hl
    | cons c t => obtain ⟨a, b, c'⟩ := c; simp [encVal, flat3, encAsns, encAsn]
  | unknown c raw => exact absurd rfl (hu c raw)
  | _ => simp [encVal]

end Exa.Attr7606
