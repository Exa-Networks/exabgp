import ExaModel.Model.Wire
import ExaModel.Lemmas.WireTlv
/-! C03 — every error the reference decoder returns comes from one of a finite list of sites, each
    of which names a literal (code, subcode). Case analysis of the decoder, bottom up. -/
namespace Exa.Wire
open Exa

/-- The (code, subcode) pairs that occur as literals in `Model/Wire*.lean`. -/
def errSites : List Err :=
  [(1, 2), (3, 1), (3, 2), (3, 3), (3, 4), (3, 5), (3, 6), (3, 9), (3, 10), (3, 11)]

theorem decPathId_err (ap : Bool) (bs : Bytes) (e : Err) (h : decPathId ap bs = .error e) : e = (3, 10) := by
  revert h
  fun_cases decPathId ap bs <;> intro h <;> cases h
  rfl

theorem decLabels_err (safi : Nat) (wd : Bool) (len : Nat) (bs : Bytes) (e : Err)
    (h : decLabels safi wd len bs = .error e) : e = (3, 10) := by
  revert h
  fun_cases decLabels safi wd len bs <;> intro h <;> cases h
  rfl

theorem decRdPrefix_err (afi safi : Nat) (pid : Option Nat) (ls : List Nat) (bits : Nat) (bs : Bytes) (e : Err)
    (h : decRdPrefix afi safi pid ls bits bs = .error e) : e = (3, 10) := by
  revert h
  fun_cases decRdPrefix afi safi pid ls bits bs <;> intro h <;> cases h <;> rfl

/-- Every failure of one NLRI is UPDATE Message Error / Invalid Network Field. -/
theorem decNlri_err (afi safi : Nat) (ap wd : Bool) (bs : Bytes) (e : Err)
    (h : decNlri afi safi ap wd bs = .error e) : e = (3, 10) := by
  revert h
  fun_cases decNlri afi safi ap wd bs <;> intro h
  case case1 e1 hp => cases h; exact decPathId_err ap bs _ hp
  case case3 pid len b2 e1 hl _ => cases h; exact decLabels_err safi wd len b2 _ hl
  case case5 pid len b2 ls used b3 _ _ _ => exact decRdPrefix_err afi safi pid ls (len - used) b3 e h
  all_goals cases h; rfl

theorem decNlris_err (afi safi : Nat) (ap wd : Bool) (f : Nat) (bs : Bytes) (e : Err)
    (h : decNlris afi safi ap wd f bs = .error e) : e = (3, 10) := by
  rw [decNlris_eq_walk] at h
  exact walk_err (· = (3, 10)) rfl (decNlri_err afi safi ap wd) f bs e h

theorem decMpReach_err (p : Params) (v : Bytes) (e : Err) (h : decMpReach p v = .error e) :
    e = (3, 9) ∨ e = (3, 10) := by
  revert h
  fun_cases decMpReach p v <;> intro h <;> cases h
  · exact Or.inl rfl
  · exact Or.inl rfl
  · rename_i hd; exact Or.inr (decNlris_err _ _ _ _ _ _ _ hd)

theorem decMpUnreach_err (p : Params) (v : Bytes) (e : Err) (h : decMpUnreach p v = .error e) :
    e = (3, 9) ∨ e = (3, 10) := by
  revert h
  fun_cases decMpUnreach p v <;> intro h <;> cases h
  · exact Or.inl rfl
  · rename_i hd; exact Or.inr (decNlris_err _ _ _ _ _ _ _ hd)

/-- closes a leaf of `decVal`: a few nested `if`/`match` whose error branches are literals -/
local macro "leaf" h:ident : tactic =>
  `(tactic| ((repeat' split at $h:ident) <;>
      first | (simp only [Except.error.injEq] at $h:ident; subst $h:ident; decide) | cases $h:ident))

/-- Errors of an attribute value: length (3/5), ORIGIN (3/6), AS_PATH (3/11), MP (3/9), NLRI (3/10). -/
theorem decVal_err (p : Params) (code : Nat) (v : Bytes) (e : Err) (h : decVal p code v = .error e) :
    e ∈ [(3, 5), (3, 6), (3, 9), (3, 10), (3, 11)] := by
  revert h
  fun_cases decVal p code v <;> intro h
  -- codes 14 and 15 pass on what their own decoders answer; every other leaf is a value or a literal error
  case case24 => rcases decMpReach_err p v e h with rfl | rfl <;> decide
  case case25 => rcases decMpUnreach_err p v e h with rfl | rfl <;> decide
  all_goals cases h <;> decide

theorem flagErr_err (f : Flags) (code : Nat) (e : Err) (h : flagErr f code = some e) : e = (3, 4) ∨ e = (3, 2) := by
  revert h
  fun_cases flagErr f code <;> intro h <;> cases h
  · exact Or.inl rfl
  · exact Or.inr rfl
  · exact Or.inl rfl

theorem decAttr_err (p : Params) (bs : Bytes) (e : Err) (h : decAttr p bs = .error e) :
    e ∈ [(3, 1), (3, 2), (3, 4), (3, 5), (3, 6), (3, 9), (3, 10), (3, 11)] := by
  revert h
  fun_cases decAttr p bs <;> intro h <;> cases h
  · decide
  · decide
  · rename_i hf
    rcases flagErr_err _ _ _ hf with rfl | rfl <;> decide
  · rename_i hv
    exact (by decide : ∀ x ∈ [(3, 5), (3, 6), (3, 9), (3, 10), (3, 11)],
      x ∈ [(3, 1), (3, 2), (3, 4), (3, 5), (3, 6), (3, 9), (3, 10), (3, 11)]) _ (decVal_err p _ _ _ hv)
  · decide

theorem decAttrs_err (p : Params) (f : Nat) (bs : Bytes) (e : Err) (h : decAttrs p f bs = .error e) :
    e ∈ [(3, 1), (3, 2), (3, 4), (3, 5), (3, 6), (3, 9), (3, 10), (3, 11)] := by
  rw [decAttrs_eq_walk] at h
  exact walk_err (· ∈ [(3, 1), (3, 2), (3, 4), (3, 5), (3, 6), (3, 9), (3, 10), (3, 11)]) (by decide)
    (decAttr_err p) f bs e h

theorem semErr_err (p : Params) (u : UpdateSem) (e : Err) (h : semErr p u = some e) :
    e ∈ [(3, 1), (3, 9), (3, 3)] := by
  revert h
  fun_cases semErr p u <;> intro h <;> cases h <;> decide

theorem decodeRaw_err (p : Params) (bs : Bytes) (e : Err) (h : decodeRaw p bs = .error e) : e ∈ errSites := by
  revert h
  fun_cases decodeRaw p bs <;> intro h <;> cases h
  · decide
  · decide
  · decide
  · rename_i h1
    rw [decNlris_err _ _ _ _ _ _ _ h1]; decide
  · rename_i h1
    exact (by decide : ∀ x ∈ [(3, 1), (3, 2), (3, 4), (3, 5), (3, 6), (3, 9), (3, 10), (3, 11)], x ∈ errSites) _
      (decAttrs_err p _ _ _ h1)
  · rename_i h1
    rw [decNlris_err _ _ _ _ _ _ _ h1]; decide

theorem decodeUpdate_err (p : Params) (bs : Bytes) (e : Err) (h : decodeUpdate p bs = .error e) : e ∈ errSites := by
  revert h
  fun_cases decodeUpdate p bs <;> intro h <;> cases h
  · decide
  · rename_i h1
    exact decodeRaw_err p bs _ h1
  · rename_i h1
    exact (by decide : ∀ x ∈ [(3, 1), (3, 9), (3, 3)], x ∈ errSites) _ (semErr_err p _ _ h1)

end Exa.Wire
