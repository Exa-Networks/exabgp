import ExaModel.Model.Api
/-!
Lemmas about the neighbor selector (`match_neighbor`, `match_neighbors`) and about the dispatchers:
the peers handed to a handler are the ones the selector resolves to.
-/
namespace Exa.Api

theorem prefixOf_iff (t l : List Tok) : prefixOf t l = true ↔ ∃ post, l = t ++ post := by
  fun_induction prefixOf t l with
  | case1 l => exact ⟨fun _ => ⟨l, rfl⟩, fun _ => rfl⟩
  | case2 => exact ⟨nofun, nofun⟩
  | case3 a as b bs ih =>
    rw [Bool.and_eq_true, beq_iff_eq, ih]
    constructor
    · rintro ⟨rfl, post, rfl⟩; exact ⟨post, rfl⟩
    · rintro ⟨post, h⟩; cases h; exact ⟨rfl, post, rfl⟩

theorem infixOf_iff (t l : List Tok) : infixOf t l = true ↔ ∃ pre post, l = pre ++ t ++ post := by
  induction l with
  | nil =>
    simp only [infixOf, List.isEmpty_iff]
    constructor
    · rintro rfl; exact ⟨[], [], rfl⟩
    · rintro ⟨pre, post, h⟩
      simp at h
      exact h.2.1
  | cons b bs ih =>
    simp only [infixOf, Bool.or_eq_true, prefixOf_iff, ih]
    constructor
    · rintro (⟨post, h⟩ | ⟨pre, post, h⟩)
      · exact ⟨[], post, by simpa using h⟩
      · exact ⟨b :: pre, post, by simp [h]⟩
    · rintro ⟨pre, post, h⟩
      cases pre with
      | nil => left; exact ⟨post, by simpa using h⟩
      | cons p pre =>
        right
        simp only [List.cons_append, List.cons.injEq] at h
        exact ⟨pre, post, h.2⟩

/-- After the F13 repair: a description matches a name iff EVERY term matches it (a wildcard
    term matches everything). -/
theorem matchNeighbor_fixed {q : Quirks} (hq : q.wildcardShort = false) (d : Desc) (name : List Tok) :
    matchNeighbor q d name = true ↔ ∀ t ∈ d, isWild t = true ∨ infixOf t name = true := by
  fun_induction matchNeighbor q d name with
  | case1 => exact ⟨fun _ => nofun, fun _ => rfl⟩
  | case2 _ _ _ _ hs => rw [hq] at hs; cases hs
  | case3 t ts name hw _ ih => rw [ih, List.forall_mem_cons]; exact (and_iff_right (.inl hw)).symm
  | case4 t ts name hw hi ih => rw [ih, List.forall_mem_cons]; exact (and_iff_right (.inr hi)).symm
  | case5 t ts name hw hi => exact ⟨nofun, fun h => ((h t List.mem_cons_self).elim hw hi).elim⟩

theorem mem_servicePeers (nbrs : List Nbr) (i : Nat) :
    i ∈ servicePeers nbrs ↔ ∃ n, nbrs[i]? = some n ∧ n.attached = true := by
  rw [servicePeers, List.mem_filter, List.mem_range, attachedAt]
  cases hn : nbrs[i]? with
  | none => simp
  | some n => simp [(List.getElem?_eq_some_iff.1 hn).1]

theorem mem_matchNeighbors (q : Quirks) (nbrs : List Nbr) {descs : List Desc} (hne : descs ≠ []) (i : Nat) :
    i ∈ matchNeighbors q nbrs descs ↔
      ∃ n, nbrs[i]? = some n ∧ n.attached = true ∧ ∃ d ∈ descs, matchNeighbor q d n.name = true := by
  have e : matchNeighbors q nbrs descs = (servicePeers nbrs).filter (matchAt q nbrs descs) := by
    cases descs with
    | nil => exact absurd rfl hne
    | cons _ _ => rfl
  rw [e, List.mem_filter, mem_servicePeers, matchAt]
  constructor
  · rintro ⟨⟨n, hn, ha⟩, h⟩
    rw [hn] at h
    exact ⟨n, hn, ha, List.any_eq_true.1 h⟩
  · rintro ⟨n, hn, ha, hd⟩
    exact ⟨⟨n, hn, ha⟩, by rw [hn]; exact List.any_eq_true.2 hd⟩

theorem matchNeighbors_nil (q : Quirks) (nbrs : List Nbr) : matchNeighbors q nbrs [] = servicePeers nbrs := by
  simp [matchNeighbors]

open Exa Exa.Rib Exa.Generated.ApiTable

/-- a dispatch result that carries a selector hands the handler exactly the peers the selector resolves to -/
def DispRes.Resolved (q : Quirks) (nbrs : List Nbr) : DispRes → Prop
  | .ok _ (some sel) peers _ _ => peers = sel.resolve q nbrs
  | _ => True

theorem DispRes.Resolved.ite {q : Quirks} {nbrs : List Nbr} {c : Prop} [Decidable c] {a b : DispRes}
    (ha : a.Resolved q nbrs) (hb : b.Resolved q nbrs) : (if c then a else b).Resolved q nbrs := by
  split <;> assumption

theorem finishV6_resolved {q : Quirks} (hq : q.v6Fallback = false) (nbrs : List Nbr) (h : Handler) (sel : Option Sel)
    (rest : List Tok) : (finishV6 q nbrs h sel rest).Resolved q nbrs := by
  unfold finishV6
  cases sel with
  | none => exact .ite (.ite trivial trivial) trivial
  | some s =>
    simp only [hq]
    exact .ite trivial rfl

/-- After the F21 repair `dispatch_v6` hands the handler exactly the peers its selector selected. -/
theorem dispatchV6_resolved {q : Quirks} (hq : q.v6Fallback = false) (nbrs : List Nbr) (cmd : Cmd) :
    (dispatchV6 q nbrs cmd).Resolved q nbrs := by
  fun_cases dispatchV6 q nbrs cmd
  case case3 => exact finishV6_resolved hq ..
  all_goals trivial

theorem dispatchNeighborV4_resolved (q : Quirks) (nbrs : List Nbr) (toks : List Tok) :
    (dispatchNeighborV4 q nbrs toks).Resolved q nbrs := by
  unfold dispatchNeighborV4
  rcases extractNeighbors toks with ⟨ds, _ | ⟨action, args⟩⟩
  · trivial
  · -- every `.ok` is built from `sel` and `sel.resolve q nbrs`
    refine .ite (.ite trivial rfl) (.ite (.ite trivial ?_) trivial)
    split
    · trivial
    · split
      · trivial
      · rfl

theorem dispatchV4_resolved {q : Quirks} (hq : q.v6Fallback = false) (nbrs : List Nbr) (cmd : Cmd) :
    (dispatchV4 q nbrs cmd).Resolved q nbrs := by
  have h6 := dispatchV6_resolved hq nbrs
  unfold dispatchV4
  cases words cmd with
  | nil => exact h6 cmd
  | cons first _ =>
    refine .ite (h6 cmd) (.ite (h6 cmd) (.ite (dispatchNeighborV4_resolved q nbrs _) ?_))
    split
    · exact h6 _
    · trivial

theorem routeCmd_peers {env : Env} {st : St} {cmd : Cmd} {h : Handler} {sel : Sel} {peers : List Nat}
    {rest : List Tok} {a : Nat} (hq : env.q.v6Fallback = false)
    (hr : routeCmd env st cmd = .call h (some sel) peers rest a) : peers = sel.resolve env.q env.nbrs := by
  have hd : (if st.version == 4 then dispatchV4 env.q env.nbrs cmd else dispatchV6 env.q env.nbrs cmd).Resolved
      env.q env.nbrs := .ite (dispatchV4_resolved hq env.nbrs cmd) (dispatchV6_resolved hq env.nbrs cmd)
  revert hr
  fun_cases routeCmd env st cmd <;> intro hr <;> cases hr
  case case3 e => rw [e] at hd; exact hd

theorem routeCmd_error_state (env : Env) (st : St) (cmd : Cmd) : (exec env st cmd .error).1 = st := rfl

end Exa.Api
