import ExaModel.Lemmas.ReloadSess
/-! World-level plumbing of M-Reload: what `Reactor.reload()` leaves under ONE neighbor name
    (the reload folds over all neighbors; neighbors of other names do not touch it). -/
namespace Exa.Reload
open Exa Exa.Rib

section fold
variable {σ τ : Type} (step : σ → Nbr → σ) (view : Nat → σ → τ)
  (hother : ∀ st n a, n.name ≠ a → view a (step st n) = view a st)
include hother

theorem foldl_other (ns : List Nbr) (st : σ) {a : Nat} (h : a ∉ ns.map Nbr.name) :
    view a (ns.foldl step st) = view a st := by
  induction ns generalizing st with
  | nil => rfl
  | cons x t ih =>
    rw [List.map_cons, List.mem_cons, not_or] at h
    rw [List.foldl_cons, ih _ h.2, hother st x a (Ne.symm h.1)]

theorem foldl_self (upd : Nbr → τ → τ) (hself : ∀ st n, view n.name (step st n) = upd n (view n.name st))
    (ns : List Nbr) (st : σ) (hn : (ns.map Nbr.name).Nodup) {n : Nbr} (hm : n ∈ ns) :
    view n.name (ns.foldl step st) = upd n (view n.name st) := by
  induction ns generalizing st with
  | nil => cases hm
  | cons x t ih =>
    rw [List.map_cons, List.nodup_cons] at hn
    rw [List.foldl_cons]
    rcases List.mem_cons.1 hm with rfl | e
    · rw [foldl_other step view hother t _ hn.1, hself]
    · rw [ih _ hn.2 e, hother st x n.name fun e' => hn.1 (e' ▸ List.mem_map.2 ⟨n, e, rfl⟩)]

end fold

def parseRibs (ribs : AList Nat Sess) (ns : List Nbr) : AList Nat Sess :=
  ns.foldl (fun ribs n => AList.insert n.name (parseSess (AList.lookup n.name ribs) n) ribs) ribs

theorem parseAll_eq (ns : List Nbr) (w : World) : parseAll w ns = { w with ribs := parseRibs w.ribs ns } := by
  induction ns generalizing w with
  | nil => rfl
  | cons x t ih => exact ih (parseNbr w x)

theorem parseRibs_lookup (ns : List Nbr) (ribs : AList Nat Sess) (hn : (ns.map Nbr.name).Nodup) {n : Nbr}
    (hm : n ∈ ns) : AList.lookup n.name (parseRibs ribs ns) = some (parseSess (AList.lookup n.name ribs) n) :=
  foldl_self _ (fun a ribs => AList.lookup a ribs) (fun _ _ _ h => AList.lookup_insert_ne (Ne.symm h) ..)
    (fun n o => some (parseSess o n)) (fun _ _ => AList.lookup_insert_self ..) ns ribs hn hm

/-- Distinct names: each section is appended in turn. -/
theorem toDict_eq (ns : List Nbr) (hn : (ns.map Nbr.name).Nodup) : toDict ns = ns.map fun n => (n.name, n) := by
  suffices h : ∀ d : AList Nat Nbr, (∀ n ∈ ns, n.name ∉ AList.keys d) →
      ns.foldl (fun d n => AList.insert n.name n d) d = d ++ ns.map fun n => (n.name, n) from
    h [] fun _ _ hk => nomatch hk
  induction ns with
  | nil => intro d _; exact (List.append_nil d).symm
  | cons x t ih =>
    intro d hd
    rw [List.map_cons, List.nodup_cons] at hn
    rw [List.foldl_cons, AList.insert_fresh (hd x List.mem_cons_self), List.map_cons]
    refine (ih hn.2 _ fun n hnt hk => ?_).trans (List.append_assoc ..)
    rw [AList.keys, List.map_append, List.mem_append] at hk
    rcases hk with hk | hk
    · exact hd n (List.mem_cons_of_mem _ hnt) hk
    · exact hn.1 (List.mem_map.2 ⟨n, hnt, List.mem_singleton.1 hk⟩)

theorem toDict_values (ns : List Nbr) (hn : (ns.map Nbr.name).Nodup) : AList.values (toDict ns) = ns := by
  rw [toDict_eq ns hn, AList.values, List.map_map]; exact List.map_id ns

theorem toDict_keys (ns : List Nbr) (hn : (ns.map Nbr.name).Nodup) : AList.keys (toDict ns) = ns.map Nbr.name := by
  rw [toDict_eq ns hn, AList.keys, List.map_map]; rfl

theorem toDict_lookup (ns : List Nbr) (hn : (ns.map Nbr.name).Nodup) (n : Nbr) (hm : n ∈ ns) :
    AList.lookup n.name (toDict ns) = some n :=
  AList.lookup_of_mem (by rw [AList.NodupKeys, toDict_keys ns hn]; exact hn)
    (toDict_eq ns hn ▸ List.mem_map.2 ⟨n, hm, rfl⟩)

theorem removePeers_peers (w : World) (a : Nat) :
    AList.lookup a (removePeers w).peers = if (AList.lookup a w.nbrs).isSome then AList.lookup a w.peers else none :=
  AList.lookup_filter_key (fun k => (AList.lookup k w.nbrs).isSome) w.peers a

/-- `rib.uncache()`: the RIB goes exactly when a peer of that name is removed. -/
theorem removePeers_ribs (w : World) (a : Nat) :
    AList.lookup a (removePeers w).ribs
      = if a ∈ AList.keys w.peers ∧ AList.lookup a w.nbrs = none then none else AList.lookup a w.ribs := by
  rw [removePeers, AList.lookup_filter_key
    (fun k => !((AList.keys w.peers).filter (fun k => (AList.lookup k w.nbrs).isNone)).contains k)]
  simp only [Bool.not_eq_true', ← Bool.not_eq_true, List.contains_iff_mem, List.mem_filter,
    Option.isNone_iff_eq_none, ite_not]

theorem decideOne_fields (prevs : AList Nat Nbr) (w : World) (n : Nbr) :
    (decideOne prevs w n).nbrs = w.nbrs ∧ (decideOne prevs w n).procs = w.procs ∧
    (decideOne prevs w n).pending = w.pending := ⟨rfl, rfl, rfl⟩

theorem decideOne_other (prevs : AList Nat Nbr) (w : World) (n : Nbr) (a : Nat) (h : n.name ≠ a) :
    (AList.lookup a (decideOne prevs w n).peers, AList.lookup a (decideOne prevs w n).ribs)
      = (AList.lookup a w.peers, AList.lookup a w.ribs) := by
  simp only [decideOne, AList.lookup_insert_ne (Ne.symm h)]
  split
  · rw [AList.lookup_insert_ne (Ne.symm h)]
  · rfl

/-- What the decision leaves under the name it is about. -/
def decided (prevs : AList Nat Nbr) (n : Nbr) (p : Option PeerSt) (s : Option Sess) : Option PeerSt × Option Sess :=
  let r := decidePeer ((AList.lookup n.name prevs).map Nbr.plain) n p s
  (some r.1, match r.2 with | some s' => some s' | none => s)

theorem decideOne_self (prevs : AList Nat Nbr) (w : World) (n : Nbr) :
    (AList.lookup n.name (decideOne prevs w n).peers, AList.lookup n.name (decideOne prevs w n).ribs)
      = decided prevs n (AList.lookup n.name w.peers) (AList.lookup n.name w.ribs) := by
  simp only [decideOne, decided, AList.lookup_insert_self]
  cases (decidePeer _ n _ _).2 with
  | none => rfl
  | some s => rw [AList.lookup_insert_self]

theorem decideFold_fields (prevs : AList Nat Nbr) (l : List Nbr) (w : World) :
    (l.foldl (decideOne prevs) w).nbrs = w.nbrs ∧ (l.foldl (decideOne prevs) w).procs = w.procs ∧
    (l.foldl (decideOne prevs) w).pending = w.pending := by
  induction l generalizing w with
  | nil => exact ⟨rfl, rfl, rfl⟩
  | cons x t ih => exact ih (decideOne prevs w x)

theorem decideFold_other (prevs : AList Nat Nbr) (l : List Nbr) (w : World) {a : Nat} (h : a ∉ l.map Nbr.name) :
    AList.lookup a (l.foldl (decideOne prevs) w).peers = AList.lookup a w.peers ∧
    AList.lookup a (l.foldl (decideOne prevs) w).ribs = AList.lookup a w.ribs :=
  Prod.mk.inj <| foldl_other (decideOne prevs) (fun a w => (AList.lookup a w.peers, AList.lookup a w.ribs))
    (decideOne_other prevs) l w h

theorem decideFold_self (prevs : AList Nat Nbr) (l : List Nbr) (w : World) (hn : (l.map Nbr.name).Nodup) {n : Nbr}
    (hm : n ∈ l) :
    (AList.lookup n.name (l.foldl (decideOne prevs) w).peers, AList.lookup n.name (l.foldl (decideOne prevs) w).ribs)
      = decided prevs n (AList.lookup n.name w.peers) (AList.lookup n.name w.ribs) :=
  foldl_self (decideOne prevs) (fun a w => (AList.lookup a w.peers, AList.lookup a w.ribs))
    (decideOne_other prevs) (fun n ps => decided prevs n ps.1 ps.2) (decideOne_self prevs) l w hn hm

/-- `Peer._replaced_routes`: what the definition the peer holds last has not applied to the RIB yet,
    followed by the routes of the section being replaced. -/
def linkOf (p : PeerSt) (prev : Option (List Route)) : Option (List Route) :=
  match (p.next.getD p.cur).prev with
  | some x => some (x ++ prev.getD [])
  | none => prev

theorem linkOf_of_some {p : PeerSt} {x : List Route} (h : (p.next.getD p.cur).prev = some x)
    (prev : Option (List Route)) : linkOf p prev = some (x ++ prev.getD []) := by
  simp only [linkOf, h]

theorem linkOf_of_none {p : PeerSt} (h : (p.next.getD p.cur).prev = none) (prev : Option (List Route)) :
    linkOf p prev = prev := by
  simp only [linkOf, h]

theorem linkOf_settled {p : PeerSt} (hn : p.next = none) (hv : p.cur.prev = none) (prev : Option (List Route)) :
    linkOf p prev = prev :=
  linkOf_of_none (by rw [hn]; exact hv) prev

section decide
variable {prev : Option (List Route)} {n : Nbr} {p : PeerSt} {s : Option Sess}

theorem decidePeer_new :
    decidePeer prev n none s = ({ cur := ⟨n, prev⟩, next := none, up := false, teardown := false }, none) := rfl

theorem decidePeer_reestablish (h : p.cur.nbr.sameSession n = false) :
    decidePeer prev n (some p) s = ({ p with teardown := true, next := some ⟨n, linkOf p prev⟩ }, none) := by
  simp only [decidePeer, h, linkOf, Bool.not_false, if_true]; rfl

theorem decidePeer_reconfigure_up (h : p.cur.nbr.sameSession n = true) (hup : p.up = true) :
    decidePeer prev n (some p) s = ({ p with cur := ⟨n, linkOf p prev⟩, next := some ⟨n, linkOf p prev⟩ }, none) := by
  simp only [decidePeer, h, hup, linkOf, Bool.not_true, Bool.false_eq_true, if_false, if_true]; rfl

theorem decidePeer_reconfigure_down (h : p.cur.nbr.sameSession n = true) (hup : p.up = false) :
    decidePeer prev n (some p) s
      = ({ p with cur := ⟨n, none⟩, next := none },
         s.map fun s => { s with rib := s.rib.replaceReload ((linkOf p prev).getD []) n.plain }) := by
  simp only [decidePeer, h, hup, linkOf, Bool.not_true, Bool.false_eq_true, if_false]; rfl

end decide

/-- The world `Configuration.reload()` leaves when the file is valid and `_attach` was empty. -/
def committed (w : World) (c : Config) : World :=
  { procs := c.procs, nbrs := toDict c.nbrs, ribs := parseRibs w.ribs c.nbrs, peers := w.peers, pending := [] }

theorem cfgReload_ok (w : World) (c : Config) (hp : w.pending = []) :
    cfgReload w c none = (committed w c, true) := by
  simp only [cfgReload, clearStage, parseStage, attachRibs, parseAll_eq, hp, List.nil_append, committed]

/-- `Reactor.reload()` on a valid file, `_attach` empty: the peers of names that are gone are
    removed, then the decision is taken section by section. -/
theorem reactorReload_none (w : World) (c : Config) (hp : w.pending = []) (hnodup : (c.nbrs.map Nbr.name).Nodup) :
    reactorReload w c none = (c.nbrs.foldl (decideOne w.nbrs) (removePeers (committed w c)), true) := by
  simp only [reactorReload, cfgReload_ok w c hp, if_true]
  rw [show (removePeers (committed w c)).nbrs = toDict c.nbrs from rfl, toDict_values c.nbrs hnodup]

/-- Under the name of a section `n` of the new file the reload leaves what `decidePeer` says of the
    peer that was there and the RIB the commit has just bound `n` to. -/
theorem reactorReload_at (w : World) (c : Config) (hpend : w.pending = [])
    (hnodup : (c.nbrs.map Nbr.name).Nodup) (n : Nbr) (hn : n ∈ c.nbrs)
    {o : Option Nbr} {p : Option PeerSt} {s : Option Sess} (ho : AList.lookup n.name w.nbrs = o)
    (hp : AList.lookup n.name w.peers = p) (hs : AList.lookup n.name w.ribs = s)
    {r : PeerSt × Option Sess} (hr : decidePeer (o.map Nbr.plain) n p (some (parseSess s n)) = r) :
    (reactorReload w c none).2 = true ∧
    AList.lookup n.name (reactorReload w c none).1.peers = some r.1 ∧
    AList.lookup n.name (reactorReload w c none).1.ribs = some (r.2.getD (parseSess s n)) ∧
    AList.lookup n.name (reactorReload w c none).1.nbrs = some n := by
  subst ho hp hs hr
  have hlk : AList.lookup n.name (committed w c).nbrs = some n := toDict_lookup c.nbrs hnodup n hn
  have hfold := decideFold_self w.nbrs c.nbrs (removePeers (committed w c)) hnodup hn
  rw [removePeers_peers, removePeers_ribs, hlk] at hfold
  simp only [Option.isSome_some, if_true, reduceCtorEq, and_false, if_false] at hfold
  rw [show (committed w c).peers = w.peers from rfl, show (committed w c).ribs = parseRibs w.ribs c.nbrs from rfl,
    parseRibs_lookup c.nbrs _ hnodup hn] at hfold
  obtain ⟨h1, h2⟩ := Prod.mk.inj hfold
  rw [reactorReload_none w c hpend hnodup]
  refine ⟨rfl, h1, h2.trans ?_, (congrArg (AList.lookup n.name) (decideFold_fields _ _ _).1).trans hlk⟩
  generalize (decidePeer _ n _ _).2 = o
  cases o <;> rfl

/-- `_attach` is empty after every reload that got as far as `_clear()` (commit and abort both
    empty it), and after any reload at all if it was empty before. -/
theorem reload_pending (w : World) (c : Config) (f : Option Fault)
    (h : f = some .missingFile → w.pending = []) : (reactorReload w c f).1.pending = [] := by
  cases f with
  | none =>
    simp only [reactorReload, cfgReload, clearStage, parseStage, attachRibs, if_true]
    rw [(decideFold_fields _ _ _).2.2]
    rfl
  | some f =>
    cases f with
    | missingFile => simpa [reactorReload, cfgReload] using h rfl
    | firstLine | «syntax» k | «exception» k => simp [reactorReload, cfgReload, abortStage]

section peer
variable {w : World} {a : Nat} {p : PeerSt} {s : Sess}

theorem loopTop_at (hp : AList.lookup a w.peers = some p) (hs : AList.lookup a w.ribs = some s)
    (hup : p.up = true) (ht : p.teardown = false) {o : NObj} (hn : p.next = some o) :
    AList.lookup a (w.loopTop a).peers = some { p with cur := { o with prev := none }, next := none } ∧
    AList.lookup a (w.loopTop a).ribs = some (s.step (.reload (o.prev.getD []) o.nbr.plain)).1 := by
  simp [World.loopTop, hp, hs, hup, ht, hn, World.setRib, World.setPeer]

theorem lost_at (hp : AList.lookup a w.peers = some p) (hs : AList.lookup a w.ribs = some s) :
    AList.lookup a (w.lost a).peers
      = some { p with up := false, teardown := false, cur := p.next.getD p.cur, next := none } ∧
    AList.lookup a (w.lost a).ribs = some (s.step .lost).1 := by
  simp [World.lost, hp, hs, World.setRib, World.setPeer]

theorem establish_at (hp : AList.lookup a w.peers = some p) (hs : AList.lookup a w.ribs = some s)
    (hup : p.up = false) (ht : p.teardown = false) :
    AList.lookup a (w.establish a).peers = some { p with up := true, cur := { p.cur with prev := none } } ∧
    AList.lookup a (w.establish a).ribs
      = some (s.step (.established (p.cur.prev.getD []) p.cur.nbr.plain)).1 := by
  simp [World.establish, hp, hs, hup, ht, World.setRib, World.setPeer]

theorem xmit_at (hp : AList.lookup a w.peers = some p) (hs : AList.lookup a w.ribs = some s)
    (hup : p.up = true) (ops : List Op) :
    AList.lookup a (w.xmit a ops).1.peers = some p ∧ AList.lookup a (w.xmit a ops).1.ribs = some (s.run ops).1 ∧
    (w.xmit a ops).2 = (s.run ops).2 := by
  simp [World.xmit, hp, hs, hup, World.setRib]

theorem drain_at (hp : AList.lookup a w.peers = some p) (hs : AList.lookup a w.ribs = some s)
    (hup : p.up = true) : (w.drain a).2 = s.drain.2 := by
  simp [World.drain, hp, hs, hup]

theorem drained_at {t : Table} {v : Nat → Option (Nat × Nat)} (hp : AList.lookup a w.peers = some p)
    (hs : AList.lookup a w.ribs = some s) (hup : p.up = true) (g : Good s t)
    (hv : ∀ m, AList.lookup m (applyEvs t s.drain.2) = v m) :
    ∃ s1, AList.lookup a w.ribs = some s1 ∧ Good s1 t ∧ (w.drain a).2 = s1.drain.2 ∧
      ∀ m, AList.lookup m (applyEvs t (w.drain a).2) = v m :=
  have hd := drain_at hp hs hup
  ⟨s, hs, g, hd, fun m => hd ▸ hv m⟩

end peer

/-- Neighbor section `n` is already live in `w` with exactly these routes: parsing it again
    changes nothing. -/
def Settled (w : World) (n : Nbr) : Prop :=
  ∃ s, AList.lookup n.name w.ribs = some s ∧ s.rib.families = n.fams ∧ FamOK s.rib ∧ n.adjOut = true ∧
    ∀ cr ∈ n.routes, n.fams.contains cr.r.fam = true → cr.wd = none ∧ s.rib.inCache cr.r = true

theorem run_insert_cached (s : Sess) (crs : List CRoute)
    (h : ∀ cr ∈ crs, cr.wd = none ∧ s.rib.inCache cr.r = true) : (s.run (crs.map insertOp)).1 = s := by
  induction crs with
  | nil => rfl
  | cons cr t ih =>
    obtain ⟨h1, h2⟩ := h cr List.mem_cons_self
    have hstep : (s.step (insertOp cr)).1 = s := by
      simp only [insertOp, h1, Sess.step, Rib.add, h2, Bool.not_false, Bool.true_and, if_true]
    simp only [List.map_cons, Sess.run, hstep]
    exact ih (fun c hc => h c (List.mem_cons_of_mem _ hc))

theorem parseNbr_settled (w : World) (n : Nbr) (h : Settled w n) : parseNbr w n = w := by
  obtain ⟨s, hl, hf, hok, ha, hr⟩ := h
  have hp : parseSess (AList.lookup n.name w.ribs) n = s := by
    rw [hl]
    simp only [parseSess, attach_same s n hf hok ha, insertOps]
    apply run_insert_cached
    intro cr hcr
    obtain ⟨h1, h2⟩ := List.mem_filter.1 hcr
    exact hr cr h1 h2
  simp only [parseNbr, hp, AList.insert_same hl]

theorem parseAll_settled (w : World) (ns : List Nbr) (h : ∀ n ∈ ns, Settled w n) : parseAll w ns = w := by
  induction ns with
  | nil => rfl
  | cons x t ih =>
    simp only [parseAll, List.foldl_cons, parseNbr_settled w x (h x List.mem_cons_self)]
    exact ih (fun n hn => h n (List.mem_cons_of_mem _ hn))

end Exa.Reload
