import ExaModel.Lemmas.RibBasic
/-! What a list of events does to the peer's entry for one NLRI, and the closed form of that
    effect for the snapshot `updates()` takes of the queues. -/
namespace Exa.Rib
open Exa

abbrev Val := Option (Nat × Nat)

/-- What one event does to the peer's entry for NLRI `n`. -/
def upd (n : Nat) (v : Val) : Ev → Val
  | .ann r => if r.nlri = n then some (r.attr, r.nh) else v
  | .wd m _ => if m = n then none else v
  | _ => v

def effect (n : Nat) (evs : List Ev) (v : Val) : Val := evs.foldl (upd n) v

@[simp] theorem effect_nil (n : Nat) (v : Val) : effect n [] v = v := rfl
@[simp] theorem effect_cons (n : Nat) (e : Ev) (evs : List Ev) (v : Val) :
    effect n (e :: evs) v = effect n evs (upd n v e) := rfl
@[simp] theorem effect_append (n : Nat) (a b : List Ev) (v : Val) :
    effect n (a ++ b) v = effect n b (effect n a v) := List.foldl_append ..

theorem lookup_applyEv (n : Nat) (t : Table) (e : Ev) :
    AList.lookup n (applyEv t e) = upd n (AList.lookup n t) e := by
  cases e with
  | ann r =>
    by_cases h : r.nlri = n
    · simp [applyEv, upd, h]
    · simp [applyEv, upd, h, Ne.symm h]
  | wd m f =>
    by_cases h : m = n
    · simp [applyEv, upd, h]
    · simp [applyEv, upd, h, Ne.symm h]
  | _ => rfl

theorem lookup_applyEvs (n : Nat) (t : Table) (evs : List Ev) :
    AList.lookup n (applyEvs t evs) = effect n evs (AList.lookup n t) := by
  induction evs generalizing t with
  | nil => rfl
  | cons e es ih => rw [effect_cons, ← lookup_applyEv]; exact ih _

theorem applyEvs_append (t : Table) (a b : List Ev) : applyEvs t (a ++ b) = applyEvs (applyEvs t a) b :=
  List.foldl_append ..

theorem effect_fixed {n : Nat} {evs : List Ev} {v : Val} (h : ∀ e ∈ evs, upd n v e = v) :
    effect n evs v = v := by
  induction evs with
  | nil => rfl
  | cons e t ih =>
    rw [effect_cons, h e List.mem_cons_self]
    exact ih fun e he => h e (List.mem_cons_of_mem _ he)

theorem effect_map_fixed {α : Type} {n : Nat} {v : Val} {f : α → Ev} {l : List α}
    (h : ∀ a ∈ l, upd n v (f a) = v) : effect n (l.map f) v = v :=
  effect_fixed fun e he => by obtain ⟨a, ha, rfl⟩ := List.mem_map.1 he; exact h a ha

theorem effect_ann_other (n : Nat) (rs : List Route) (v : Val) (h : ∀ r ∈ rs, r.nlri ≠ n) :
    effect n (rs.map Ev.ann) v = v :=
  effect_map_fixed fun r hr => if_neg (h r hr)

theorem effect_ann_agree (n : Nat) (rs : List Route) (c : Val)
    (h : ∀ r ∈ rs, r.nlri = n → some (r.attr, r.nh) = c) :
    effect n (rs.map Ev.ann) c = c :=
  effect_map_fixed fun r hr => by
    by_cases h1 : r.nlri = n
    · simp only [upd, h1, if_true]; exact h r hr h1
    · exact if_neg h1

theorem effect_ann_filter_ne (n m : Nat) (rs : List Route) (v : Val) (h : n ≠ m) :
    effect n ((rs.filter (fun r => r.nlri != m)).map Ev.ann) v = effect n (rs.map Ev.ann) v := by
  induction rs generalizing v with
  | nil => rfl
  | cons r t ih =>
    by_cases h1 : r.nlri = m
    · simp [h1, upd, Ne.symm h, ih]
    · simp [h1, ih]

theorem effect_ann_filter_self (n : Nat) (rs : List Route) (v : Val) :
    effect n ((rs.filter (fun r => r.nlri != n)).map Ev.ann) v = v :=
  effect_ann_other n _ v fun r hr => by simpa using (List.mem_filter.1 hr).2

theorem effect_wd (n : Nat) (l : AList Nat Nat) (v : Val) :
    effect n (l.map (fun p => Ev.wd p.1 p.2)) v = if AList.lookup n l = none then v else none := by
  induction l generalizing v with
  | nil => rfl
  | cons hd t ih =>
    obtain ⟨m, f⟩ := hd
    simp only [List.map_cons, effect_cons, upd, AList.lookup, ih]
    by_cases h : m = n <;> simp [h]

/-- well-formed map of queued announces: keys are the routes' own nlri, no key twice -/
def KeyOK (l : AList Nat Route) : Prop := ∀ p ∈ l, p.2.nlri = p.1
def WFMap (l : AList Nat Route) : Prop := AList.NodupKeys l ∧ KeyOK l

theorem wfmap_nil : WFMap [] := ⟨AList.nodupKeys_nil, fun _ hp => nomatch hp⟩

theorem wfmap_insert {l : AList Nat Route} (h : WFMap l) (r : Route) : WFMap (AList.insert r.nlri r l) := by
  refine ⟨AList.nodup_insert h.1, fun p hp => ?_⟩
  rcases AList.mem_insert hp with h1 | h1
  · subst h1; rfl
  · exact h.2 p h1

theorem wfmap_erase {l : AList Nat Route} (h : WFMap l) (n : Nat) : WFMap (AList.erase n l) :=
  ⟨AList.nodup_erase h.1, fun p hp => h.2 p (AList.mem_erase hp)⟩

theorem wfmap_filter (q : Nat × Route → Bool) {l : AList Nat Route} (h : WFMap l) : WFMap (l.filter q) :=
  ⟨AList.nodup_filter q h.1, fun p hp => h.2 p (List.mem_filter.1 hp).1⟩

theorem mem_values_lookup {l : AList Nat Route} (h : WFMap l) {r : Route} (hr : r ∈ AList.values l) :
    AList.lookup r.nlri l = some r := by
  obtain ⟨p, hp, rfl⟩ := List.mem_map.1 hr
  rw [h.2 p hp]
  exact AList.lookup_of_mem h.1 hp

theorem mem_values_of_lookup {l : AList Nat Route} {n : Nat} {r : Route} (h : AList.lookup n l = some r) :
    r ∈ AList.values l :=
  List.mem_map.2 ⟨(n, r), AList.mem_of_lookup h, rfl⟩

theorem nlri_of_lookup {l : AList Nat Route} (h : WFMap l) {n : Nat} {r : Route}
    (hl : AList.lookup n l = some r) : r.nlri = n :=
  h.2 (n, r) (AList.mem_of_lookup hl)

/-- the older announces kept for an NLRI are announces of that NLRI -/
def StaleOK (stale : AList Nat (List Route)) : Prop :=
  ∀ k chain, AList.lookup k stale = some chain → ∀ x ∈ chain, x.nlri = k

theorem staleOK_nil : StaleOK [] := fun _ _ h => nomatch h

theorem staleOK_erase {stale : AList Nat (List Route)} (h : StaleOK stale) (n : Nat) :
    StaleOK (AList.erase n stale) := by
  intro k chain hk
  rw [AList.lookup_erase] at hk
  split at hk
  · cases hk
  · exact h k chain hk

theorem staleOK_insert {stale : AList Nat (List Route)} (h : StaleOK stale) (n : Nat) (c : List Route)
    (hc : ∀ x ∈ c, x.nlri = n) : StaleOK (AList.insert n c stale) := by
  intro k chain hk
  rw [AList.lookup_insert] at hk
  split at hk
  · rename_i e; cases hk; subst e; exact hc
  · exact h k chain hk

theorem StaleOK.chain {stale : AList Nat (List Route)} (h : StaleOK stale) (k : Nat) :
    ∀ r ∈ (AList.lookup k stale).getD [], r.nlri = k := by
  intro r hr
  cases hl : AList.lookup k stale with
  | none => simp [hl] at hr
  | some c => exact h k c hl r (by simpa [hl] using hr)

/-- the announce section: the latest queued route for `n` wins whatever older announces of `n`
    are still queued before it; otherwise nothing changes -/
theorem effect_annSection (n : Nat) (stale : AList Nat (List Route)) (l : AList Nat Route) (v : Val)
    (h : WFMap l) (hs : StaleOK stale) :
    effect n (annSection stale l) v =
      match AList.lookup n l with
      | some r => some (r.attr, r.nh)
      | none => v := by
  induction l generalizing v with
  | nil => rfl
  | cons hd t ih =>
    obtain ⟨k, r⟩ := hd
    have hk : r.nlri = k := h.2 (k, r) List.mem_cons_self
    have hnd := AList.nodupKeys_cons.1 h.1
    have ih' := fun v => ih v ⟨hnd.2, fun p hp => h.2 p (List.mem_cons_of_mem _ hp)⟩
    simp only [annSection] at ih'
    simp only [annSection, List.flatMap_cons, effect_append, effect_cons, effect_nil, upd, AList.lookup, hk]
    by_cases h1 : k = n
    · subst h1
      rw [if_pos rfl, if_pos rfl, ih', AList.lookup_eq_none_iff.2 hnd.1]
    · rw [if_neg h1, if_neg h1, effect_ann_other n _ v fun r hr => hs.chain k r hr ▸ h1]
      exact ih' v

/-- `include_withdraw` of the generator that will consume the *queued* snapshot. -/
def nextIncl (s : Sess) : Bool := s.inclWd || s.inflight.isSome

/-- Everything a drain would still put on the wire. -/
def future (s : Sess) : List Ev :=
  s.inflight.getD [] ++ s.rib.snapshotEvents.filter (keepEv (nextIncl s))

/-- Closed form of the effect of the queued snapshot on NLRI `n`. -/
def snapEff (rib : Rib) (incl : Bool) (n : Nat) (v : Val) : Val :=
  match AList.lookup n rib.newAnn with
  | some r => some (r.attr, r.nh)
  | none =>
    if incl && (AList.lookup n rib.newWd).isSome then none
    else effect n (rib.refRoutes.map Ev.ann) v

theorem filter_keep_map {α : Type} (incl : Bool) {f : α → Ev} (hf : ∀ a, keepEv incl (f a) = true)
    (l : List α) : (l.map f).filter (keepEv incl) = l.map f :=
  List.filter_eq_self.2 fun e he => by obtain ⟨a, _, rfl⟩ := List.mem_map.1 he; exact hf a

theorem filter_keep_annSection (incl : Bool) (stale : AList Nat (List Route)) (l : AList Nat Route) :
    (annSection stale l).filter (keepEv incl) = annSection stale l := by
  apply List.filter_eq_self.2
  intro e he
  simp only [annSection, List.mem_flatMap, List.mem_append, List.mem_map, List.mem_singleton] at he
  obtain ⟨p, _, ⟨r, _, rfl⟩ | rfl⟩ := he <;> rfl

theorem filter_keep_wd (incl : Bool) (l : AList Nat Nat) :
    (l.map (fun p => Ev.wd p.1 p.2)).filter (keepEv incl) =
      if incl then l.map (fun p => Ev.wd p.1 p.2) else [] := by
  cases incl with
  | true => exact List.filter_eq_self.2 fun e he => by obtain ⟨p, _, rfl⟩ := List.mem_map.1 he; rfl
  | false =>
    exact List.filter_eq_nil_iff.2 fun e he => by obtain ⟨p, _, rfl⟩ := List.mem_map.1 he; simp [keepEv]

theorem snap_effect (rib : Rib) (incl : Bool) (n : Nat) (v : Val) (h : WFMap rib.newAnn)
    (hs : StaleOK rib.stale) :
    effect n (rib.snapshotEvents.filter (keepEv incl)) v = snapEff rib incl n v := by
  unfold Rib.snapshotEvents snapEff
  simp only [List.filter_append, filter_keep_map incl (f := Ev.ann) fun _ => rfl,
    filter_keep_map incl (f := Ev.rrStart) fun _ => rfl, filter_keep_map incl (f := Ev.rrEnd) fun _ => rfl,
    filter_keep_wd, filter_keep_annSection, effect_append,
    effect_map_fixed (f := Ev.rrStart) fun _ _ => rfl, effect_map_fixed (f := Ev.rrEnd) fun _ _ => rfl]
  rw [effect_annSection n rib.stale rib.newAnn _ h hs]
  cases AList.lookup n rib.newAnn with
  | some r => rfl
  | none =>
    cases incl with
    | false => simp
    | true => cases hw : AList.lookup n rib.newWd <;> simp [effect_wd, hw]

theorem snapEff_flushed (rib : Rib) (incl : Bool) (n : Nat) (v : Val) :
    snapEff rib.flushed incl n v = v := by
  simp [snapEff, Rib.flushed]

theorem snapEff_not_pending (rib : Rib) (incl : Bool) (n : Nat) (v : Val) (h : rib.pending = false) :
    snapEff rib incl n v = v := by
  simp only [Rib.pending, Bool.or_eq_false_iff, Bool.not_eq_false', List.isEmpty_iff] at h
  obtain ⟨⟨h1, h2⟩, h3⟩ := h
  simp [snapEff, h1, h2, h3]

end Exa.Rib
