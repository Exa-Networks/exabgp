import ExaModel.Model.Api
/-! Lemmas about the API line reader (`split`, `feed`). -/
namespace Exa.Api

/-- lines and remainder of a concatenation from those of the parts -/
def joinSplit (ra rb : List (List Nat) × List Nat) : List (List Nat) × List Nat :=
  match rb.1 with
  | [] => (ra.1, ra.2 ++ rb.2)
  | l :: ls => (ra.1 ++ (ra.2 ++ l) :: ls, rb.2)

theorem split_cons (b : Nat) (t : List Nat) :
    split (b :: t) =
      if b = 10 then ([] :: (split t).1, (split t).2)
      else match (split t).1 with
        | [] => ([], b :: (split t).2)
        | l :: ls => ((b :: l) :: ls, (split t).2) := rfl

theorem split_append (a b : List Nat) : split (a ++ b) = joinSplit (split a) (split b) := by
  induction a with
  | nil => rw [List.nil_append]; rcases split b with ⟨_ | _, _⟩ <;> rfl
  | cons x a ih =>
    rw [List.cons_append, split_cons, split_cons, ih]
    by_cases hx : x = 10
    · rw [if_pos hx, if_pos hx]; rcases split b with ⟨_ | _, _⟩ <;> rfl
    · rw [if_neg hx, if_neg hx]
      rcases split a with ⟨_ | _, _⟩ <;> rcases split b with ⟨_ | _, _⟩ <;> rfl

def NoNl (x : List Nat) : Prop := ∀ b ∈ x, b ≠ 10

theorem split_noNl {x : List Nat} (h : NoNl x) : split x = ([], x) := by
  induction x with
  | nil => rfl
  | cons b t ih => rw [split_cons, if_neg (h b List.mem_cons_self), ih fun c hc => h c (List.mem_cons_of_mem _ hc)]

theorem split_rest_noNl (x : List Nat) : NoNl (split x).2 := by
  fun_induction split x with
  | case1 => exact nofun
  | case2 _ _ ih => exact ih
  | case3 _ _ _ hb _ ih => exact List.forall_mem_cons.2 ⟨hb, ih⟩
  | case4 _ _ _ _ _ _ _ ih => exact ih

theorem split_lines_nil {x : List Nat} (h : (split x).1 = []) : (split x).2 = x := by
  fun_induction split x with
  | case1 => rfl
  | case2 | case4 => cases h
  | case3 b _ _ _ h1 ih => exact congrArg (b :: ·) (ih h1)

/-- what the second of two consecutive reads sees -/
theorem split_append_rest (x y : List Nat) :
    split (x ++ y) = ((split x).1 ++ (split ((split x).2 ++ y)).1, (split ((split x).2 ++ y)).2) := by
  rw [split_append x y, split_append (split x).2 y, split_noNl (split_rest_noNl x)]
  rcases split y with ⟨_ | _, _⟩
  · exact Prod.ext (List.append_nil _).symm rfl
  · rfl

theorem lineCmds_append (a b : List (List Nat)) : lineCmds (a ++ b) = lineCmds a ++ lineCmds b := by
  simp [lineCmds]

/-- all bytes are ASCII (`str(raw_data, 'ascii')` succeeds) -/
def Ascii (x : List Nat) : Prop := ∀ b ∈ x, b < 128

/-- every complete line and the unfinished one fit in `max` (`MAX_COMMAND_SIZE`) -/
def Within (max : Nat) (x : List Nat) : Prop :=
  (∀ l ∈ (split x).1, l.length ≤ max) ∧ (split x).2.length ≤ max

instance (x : List Nat) : Decidable (Ascii x) := inferInstanceAs (Decidable (∀ b ∈ x, b < 128))
instance (max : Nat) (x : List Nat) : Decidable (Within max x) :=
  inferInstanceAs (Decidable ((∀ l ∈ (split x).1, l.length ≤ max) ∧ (split x).2.length ≤ max))

theorem ascii_any {x : List Nat} (h : Ascii x) : x.any (fun b => decide (128 ≤ b)) = false := by
  simp only [List.any_eq_false, decide_eq_true_eq]
  exact fun b hb => Nat.not_le.2 (h b hb)

/-- a newline-free prefix of a text is part of its first line, or of the unfinished one -/
theorem Within.prefix_le {max : Nat} {r y : List Nat} (hn : NoNl r) (h : Within max (r ++ y)) : r.length ≤ max := by
  obtain ⟨hl, hr⟩ := h
  rw [split_append, split_noNl hn] at hl hr
  generalize split y = s at hl hr
  rcases s with ⟨_ | ⟨l, ls⟩, ry⟩
  · exact Nat.le_trans (List.sublist_append_left r ry).length_le hr
  · exact Nat.le_trans (List.sublist_append_left r l).length_le (hl (r ++ l) List.mem_cons_self)

theorem within_split {max : Nat} {x y : List Nat} (h : Within max (x ++ y)) :
    Within max x ∧ Within max ((split x).2 ++ y) := by
  obtain ⟨hl, hr⟩ := h
  rw [split_append_rest] at hl hr
  have h2 : Within max ((split x).2 ++ y) := ⟨fun l m => hl l (List.mem_append_right _ m), hr⟩
  exact ⟨⟨fun l m => hl l (List.mem_append_left _ m), h2.prefix_le (split_rest_noNl x)⟩, h2⟩

theorem within_no_fire {max : Nat} {raw : List Nat} (h : Within max raw) :
    ((split raw).1.isEmpty && decide (max < raw.length)) = false := by
  cases h1 : (split raw).1 with
  | nil => exact decide_eq_false (Nat.not_lt.2 (split_lines_nil h1 ▸ h.2))
  | cons l ls => rfl

theorem feed_dead {strict : Bool} {max : Nat} {st : Reader} (h : st.dead = true) (c : List Nat) : feed strict max st c = st := by
  simp [feed, h]

theorem takeWhile_all {α : Type} (p : α → Bool) (l : List α) (h : ∀ x ∈ l, p x = true) : l.takeWhile p = l := by
  simpa using List.takeWhile_append_of_pos (l₂ := []) h

theorem feed_alive {strict : Bool} {max : Nat} {st : Reader} (hd : st.dead = false) {c : List Nat} (ha : Ascii c)
    (hw : Within max (st.buf ++ c)) :
    feed strict max st c = { st with buf := (split (st.buf ++ c)).2, queue := st.queue ++ lineCmds (split (st.buf ++ c)).1 } := by
  have htw : (split (st.buf ++ c)).1.takeWhile (fun l => decide (l.length ≤ max)) = (split (st.buf ++ c)).1 :=
    takeWhile_all _ _ fun l hl => decide_eq_true (hw.1 l hl)
  have hr : decide (max < (split (st.buf ++ c)).2.length) = false := decide_eq_false (Nat.not_lt.2 hw.2)
  simp only [feed, hd, ascii_any ha, within_no_fire hw, htw, hr]
  simp

theorem feed_append (strict : Bool) (max : Nat) (st : Reader) (a b : List Nat) (ha : Ascii (a ++ b))
    (hw : Within max (st.buf ++ (a ++ b))) : feed strict max st (a ++ b) = feed strict max (feed strict max st a) b := by
  cases hd : st.dead with
  | true => rw [feed_dead hd, feed_dead hd, feed_dead hd]
  | false =>
    obtain ⟨haa, hab⟩ := List.forall_mem_append.1 ha
    obtain ⟨hw1, hw2⟩ := within_split (List.append_assoc .. ▸ hw)
    rw [feed_alive hd ha hw, feed_alive hd haa hw1]
    rw [feed_alive (st := { st with buf := (split (st.buf ++ a)).2, queue := st.queue ++ lineCmds (split (st.buf ++ a)).1 })
      hd hab hw2]
    have key := split_append_rest (st.buf ++ a) b
    rw [List.append_assoc] at key
    simp only [key, lineCmds_append, List.append_assoc]

theorem noNl_nil : NoNl [] := nofun

theorem noNl_buf_ite {c : Prop} [Decidable c] {a b : Reader} (ha : NoNl a.buf) (hb : NoNl b.buf) :
    NoNl (if c then a else b).buf := by
  split <;> assumption

/-- every branch of `feed` leaves the old buffer, an empty one, or the remainder of a `split` -/
theorem feed_buf_noNl (strict : Bool) (max : Nat) (st : Reader) (c : List Nat) (h : NoNl st.buf) :
    NoNl (feed strict max st c).buf :=
  noNl_buf_ite h (noNl_buf_ite noNl_nil (noNl_buf_ite noNl_nil (noNl_buf_ite noNl_nil (split_rest_noNl _))))

theorem feedAll_dead {strict : Bool} {max : Nat} {st : Reader} (h : st.dead = true) (cs : List (List Nat)) :
    feedAll strict max st cs = st := by
  induction cs with
  | nil => rfl
  | cons c cs ih => simp only [feedAll, List.foldl_cons, feed_dead h] at ih ⊢; exact ih

theorem feed_nil {strict : Bool} {max : Nat} {st : Reader} (hn : NoNl st.buf) (hw : Within max st.buf) : feed strict max st [] = st := by
  cases hd : st.dead with
  | true => exact feed_dead hd _
  | false =>
    rw [feed_alive hd (c := []) nofun ((List.append_nil _).symm ▸ hw)]
    simp only [List.append_nil, split_noNl hn, lineCmds, List.map_nil, List.filter_nil]

theorem feedAll_eq_feed (strict : Bool) (max : Nat) (cs : List (List Nat)) : ∀ (st : Reader), NoNl st.buf → Ascii cs.flatten →
    Within max (st.buf ++ cs.flatten) → feedAll strict max st cs = feed strict max st cs.flatten := by
  induction cs with
  | nil =>
    intro st hn _ hw
    simp only [List.flatten_nil, List.append_nil] at hw
    simp only [feedAll, List.foldl_nil, List.flatten_nil]
    exact (feed_nil hn hw).symm
  | cons c cs ih =>
    intro st hn ha hw
    cases hd : st.dead with
    | true => rw [feedAll_dead hd, feed_dead hd]
    | false =>
      simp only [List.flatten_cons] at ha hw ⊢
      obtain ⟨hac, har⟩ := List.forall_mem_append.1 ha
      obtain ⟨hw1, hw2⟩ := within_split (List.append_assoc .. ▸ hw)
      have hbuf : (feed strict max st c).buf = (split (st.buf ++ c)).2 := by rw [feed_alive hd hac hw1]
      have := ih (feed strict max st c) (feed_buf_noNl strict max st c hn) har (by rw [hbuf]; exact hw2)
      simp only [feedAll, List.foldl_cons] at this ⊢
      rw [this, ← feed_append strict max st c cs.flatten ha hw]

end Exa.Api
