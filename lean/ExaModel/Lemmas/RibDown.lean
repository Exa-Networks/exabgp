import ExaModel.Lemmas.RibSess
/-! Session loss and re-establishment: why `replace_restart` re-establishes the convergence
    invariant against an empty peer table, and what it leaves in the Adj-RIB-Out. -/
namespace Exa.Rib
open Exa

theorem good_down {s : Sess} {t : Table} (g : Good s t) : Down (s.step .lost).1.rib :=
  down_reset s.rib g.wfCache g.cacheOn

theorem readd_cached (rs : List Route) (rib : Rib) (hc : rib.cacheOn = true)
    (hrs : ∀ r ∈ rs, AList.lookup r.nlri rib.cache = some r) :
    let rib' := rs.foldl (fun s r => s.add r true) rib
    rib'.cache = rib.cache ∧ rib'.refRoutes = rib.refRoutes ∧
    (∀ n, AList.lookup n rib'.newAnn =
      if n ∈ rs.map (·.nlri) then AList.lookup n rib.cache else AList.lookup n rib.newAnn) := by
  induction rs generalizing rib with
  | nil => exact ⟨rfl, rfl, fun _ => rfl⟩
  | cons r t ih =>
    have hr := hrs r List.mem_cons_self
    have hadd : (rib.updateRib r).cache = rib.cache := (updateRib_cache rib r hc).trans (AList.insert_same hr)
    obtain ⟨h1, h2, h3⟩ := ih (rib.updateRib r) hc fun r' hr' => by
      rw [hadd]; exact hrs r' (List.mem_cons_of_mem _ hr')
    refine ⟨h1.trans hadd, h2, fun n => ?_⟩
    rw [List.foldl_cons, add_force, h3 n, hadd, updateRib_newAnn, AList.lookup_insert]
    by_cases hn : n = r.nlri
    · subst hn; simp [hr]
    · simp [hn]

/-- Every cached route belongs to a family the RIB serves (the property's premise
    "routes of a negotiated family"). -/
def FamOK (rib : Rib) : Prop := ∀ r ∈ AList.values rib.cache, rib.families.contains r.fam = true

/-- After a session loss, `replace_restart` queues exactly what an empty peer table needs. -/
theorem good_established (rib : Rib) (prev new : List Route) (d : Down rib) (hf : FamOK rib) :
    Good ⟨rib.replaceRestart prev new, none, false⟩ [] := by
  apply (good_closed none false []).delRoutes
  have hrs : ∀ r ∈ rib.cachedRoutes rib.families, AList.lookup r.nlri rib.cache = some r :=
    fun r hr => cachedRoutes_lookup d.wfCache hr
  obtain ⟨h1, h2, h3⟩ := readd_cached (rib.cachedRoutes rib.families) rib d.cacheOn hrs
  refine .of_base (base_closed.addRoutes true _ rib d.base) (fun n => ?_) (fun _ _ _ => rfl)
  -- after the re-adding fold the queue maps every cached prefix to its cached route
  have hall : AList.lookup n (List.foldl (fun s r => s.add r true) rib (rib.cachedRoutes rib.families)).newAnn
      = AList.lookup n rib.cache := by
    rw [h3 n]
    split
    · rfl
    · rename_i hex
      cases hl : AList.lookup n rib.cache with
      | none =>
        cases hq : AList.lookup n rib.newAnn with
        | none => rfl
        | some r => rw [← hl, d.annCached n r hq]
      | some r =>
        have hv := mem_values_of_lookup hl
        refine absurd (List.mem_map.2 ⟨r, ?_, nlri_of_lookup d.wfCache hl⟩) hex
        simp only [Rib.cachedRoutes, List.mem_filter, hv, true_and, Bool.and_self, hf r hv]
  simp only [snapEff, hall, h2, nextIncl, Option.isSome_none, Bool.or_false, Bool.false_and, Bool.false_eq_true,
    if_false, Option.getD_none, effect_nil, AList.lookup_nil, Rib.cacheView, h1]
  cases hl : AList.lookup n rib.cache with
  | some r => rfl
  | none => exact effect_ann_other n _ _ fun r hr hn => d.refCached r hr (hn ▸ hl)

theorem any_values {l : AList Nat Route} (h : WFMap l) (m : Nat) :
    (AList.values l).any (·.nlri == m) = (AList.lookup m l).isSome := by
  rw [Bool.eq_iff_iff, List.any_eq_true, Option.isSome_iff_exists]
  constructor
  · rintro ⟨r, hr, hk⟩
    exact ⟨r, by rw [← beq_iff_eq.1 hk]; exact mem_values_lookup h hr⟩
  · rintro ⟨r, hl⟩
    exact ⟨r, mem_values_of_lookup hl, beq_iff_eq.2 (nlri_of_lookup h hl)⟩

theorem staleOf_eq (prev new : List Route) :
    staleOf prev new = new.foldl (fun d r => AList.erase r.nlri d) (prevIndex prev) := rfl

theorem staleOf_spec (prev new : List Route) (m : Nat) :
    WFMap (staleOf prev new) ∧
    AList.lookup m (staleOf prev new) = if new.any (·.nlri == m) then none else AList.lookup m (prevIndex prev) := by
  rw [staleOf_eq]
  have hw := prevIndex_wf prev
  generalize prevIndex prev = d at hw
  induction new generalizing d with
  | nil => exact ⟨hw, rfl⟩
  | cons r t ih =>
    obtain ⟨h1, h2⟩ := ih _ (wfmap_erase hw r.nlri)
    refine ⟨h1, ?_⟩
    rw [List.foldl_cons, h2, List.any_cons, AList.lookup_erase, ite_any_cons]

/-- `replace_restart`: the cache is re-queued as it is, minus the prefixes the previous
    configuration listed and the current one does not. -/
theorem replaceRestart_cacheView (rib : Rib) (prev new : List Route) (hc : rib.cacheOn = true)
    (hw : WFMap rib.cache) (m : Nat) :
    (rib.replaceRestart prev new).cacheView m
      = if prev.any (·.nlri == m) && !new.any (·.nlri == m) then none else rib.cacheView m := by
  obtain ⟨h1, _, _⟩ := readd_cached (rib.cachedRoutes rib.families) rib hc
    fun r hr => cachedRoutes_lookup hw hr
  have hc' := ((frame_closed true rib.families).addRoutes true (rib.cachedRoutes rib.families) rib ⟨hc, rfl⟩).1
  obtain ⟨s1, s2⟩ := staleOf_spec prev new m
  rw [Rib.replaceRestart, delRoutes_cacheView _ _ hc', any_values s1, s2, Rib.cacheView, h1]
  cases new.any (·.nlri == m) <;> simp [prevIndex_isSome, Rib.cacheView]

/-- A session that is down (nothing in flight, its first generator still to come), after any
    RIB-only operations and re-establishment: the invariant holds against an empty peer table, and
    a drain leaves that table with the Adj-RIB-Out minus what `replace_restart` drops. -/
theorem reestablished {s : Sess} (d : Down s.rib) (hi : s.inflight = none) (hw : s.inclWd = false)
    {ops : List Op} (hops : ∀ op ∈ ops, op.isRibOnly = true) (prev new : List Route)
    (hf : FamOK (s.run ops).1.rib) :
    Good ((s.run ops).1.step (.established prev new)).1 [] ∧
    ∀ m, AList.lookup m (applyEvs [] ((s.run ops).1.step (.established prev new)).1.drain.2)
      = if prev.any (·.nlri == m) && !new.any (·.nlri == m) then none else (s.run ops).1.rib.cacheView m := by
  have d1 := down_closed.run s ops hops d
  obtain ⟨_, hi1, hw1⟩ := ribOnly_run s ops hops
  have e : ((s.run ops).1.step (.established prev new)).1 = ⟨(s.run ops).1.rib.replaceRestart prev new, none, false⟩ := by
    rw [← hi, ← hi1, ← hw, ← hw1]; rfl
  rw [e]
  have g := good_established _ prev new d1 hf
  exact ⟨g, fun m => (g.drained m).trans (replaceRestart_cacheView _ prev new d1.cacheOn d1.wfCache m)⟩

end Exa.Rib
