import ExaModel.Model.Steps
import ExaModel.Lemmas.Wire
import ExaModel.Lemmas.TotalSteps
/-! C03 — "a valid message, however unusual, is not refused": UPDATEs made of unrecognised optional
    attributes, any number of them. -/
namespace Exa.Wire
open Exa

/-- A zero-length unrecognised optional non-transitive attribute with type code `c` (3 bytes on the wire). -/
def unkAttr (c : Nat) : Attr := ⟨⟨true, false, false, false⟩, .unknown c []⟩

/-- An UPDATE that carries nothing but such attributes. -/
def unkUpdate (cs : List Nat) : UpdateSem := { withdrawn := [], attrs := cs.map unkAttr, nlri := [] }

theorem flagSpec_none_of_not_known (c : Nat) (h : c ∉ knownCodes) : flagSpec c = none := by
  rw [flagSpec, List.lookup_eq_none_iff]
  intro r hr
  -- `knownCodes` is the list of the keys of `specTable`
  have : r.1 ∈ knownCodes := List.mem_map_of_mem (f := (·.1)) hr
  exact bne_iff_ne.2 fun hc => h (hc ▸ this)

theorem wf_unkAttr (p : Params) (c : Nat) (h : c ∉ knownCodes) : WFAttr p (unkAttr c) := by
  refine ⟨?_, h, ?_⟩
  · simp [unkAttr, flagErr, AttrVal.code, flagSpec_none_of_not_known c h]
  · simp [unkAttr, encVal]

theorem wf_unkAttrs (p : Params) (cs : List Nat) (hk : ∀ c ∈ cs, c ∉ knownCodes) :
    ∀ a ∈ cs.map unkAttr, WFAttr p a := by
  intro a ha
  obtain ⟨c, hc, rfl⟩ := List.mem_map.1 ha
  exact wf_unkAttr p c (hk c hc)

theorem encAttr_unkAttr (p : Params) (c : Nat) : encAttr p (unkAttr c) = [128, c, 0] := by
  simp [encAttr, unkAttr, Flags.byte, b2n, AttrVal.code, encVal, encLen]

theorem encAttrs_unk_length (p : Params) (cs : List Nat) : (encAttrs p (cs.map unkAttr)).length = 3 * cs.length := by
  induction cs with
  | nil => rfl
  | cons c t ih => simp only [List.map_cons, encAttrs, List.length_append, encAttr_unkAttr, ih, List.length_cons, List.length_nil]; omega

theorem map_code_unkAttr (cs : List Nat) : (cs.map unkAttr).map Attr.code = cs := by
  rw [List.map_map]; exact List.map_id cs

theorem mpErr_unk (p : Params) (cs : List Nat) : (cs.map unkAttr).any (mpErr p) = false := by
  induction cs with
  | nil => rfl
  | cons c t ih => simp only [List.map_cons, List.any_cons, ih, Bool.or_false]; rfl

/-- No duplicate, no MP_REACH_NLRI whose mandatory companions could be missing, no NLRI. -/
theorem semErr_unk (p : Params) (cs : List Nat) (hnd : cs.Nodup) (h14 : 14 ∉ cs) : semErr p (unkUpdate cs) = none := by
  have hc := map_code_unkAttr cs
  unfold semErr unkUpdate
  simp only [dupCode_false _ (hc.symm ▸ hnd), mpErr_unk, hasCode_false _ 14 (hc.symm ▸ h14), List.isEmpty_nil]
  rfl

theorem encodeUpdate_unk_length (p : Params) (cs : List Nat) : (encodeUpdate p (unkUpdate cs)).length = 4 + 3 * cs.length := by
  simp only [encodeUpdate, unkUpdate, encNlris, List.length_append, be16_length, List.length_nil, encAttrs_unk_length]
  omega

theorem wfUpdate_unk (p : Params) (cs : List Nat) (hnd : cs.Nodup) (hk : ∀ c ∈ cs, c ∉ knownCodes)
    (hsz : 4 + 3 * cs.length + 19 ≤ p.msgSize) (h16 : 3 * cs.length < 65536) : WFUpdate p (unkUpdate cs) := by
  refine ⟨?_, ?_, ?_, ?_, ?_, ?_, ?_⟩
  · intro n hn; simp [unkUpdate] at hn
  · exact wf_unkAttrs p cs hk
  · intro n hn; simp [unkUpdate] at hn
  · simp [unkUpdate, encNlris]
  · show (encAttrs p (cs.map unkAttr)).length < 65536
    rw [encAttrs_unk_length]; exact h16
  · rw [encodeUpdate_unk_length]; exact hsz
  · apply semErr_unk p cs hnd
    intro h
    exact hk 14 h (by decide)

theorem unknown_codes_spec :
    ∀ c ∈ (List.range 256).filter (fun c => !knownCodes.contains c), c ∉ knownCodes ∧ c < 256 := by
  intro c hc
  simp only [List.mem_filter, List.mem_range, Bool.not_eq_true', List.contains_eq_mem,
    decide_eq_false_iff_not] at hc
  exact ⟨hc.2, hc.1⟩

theorem unknown_codes_length : ((List.range 256).filter (fun c => !knownCodes.contains c)).length = 240 := by
  decide +kernel

theorem decAttrsSteps_unk (p : Params) (cs : List Nat) (hk : ∀ c ∈ cs, c ∉ knownCodes) (f : Nat) (hf : 3 * cs.length ≤ f) :
    (decAttrsSteps p f (encAttrs p (cs.map unkAttr))).2 = cs.length := by
  rw [decAttrsSteps_ok p f _ _ (decAttrs_encAttrs p _ (wf_unkAttrs p cs hk) f (by rw [encAttrs_unk_length]; exact hf)),
    List.length_map]

end Exa.Wire
