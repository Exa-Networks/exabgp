import ExaModel.Model.Health
import ExaModel.Generated.PyHealth
/-!
# M-Health — the hand-written state machine computes what the translated Python computes

`Generated/PyHealth.lean` is `trigger` and `one` of `healthcheck.loop` translated statement by
statement on every run (`harness/pylite.py`).  States are numbered in the order of `class States`.

The proofs split on the model's conditions (the state, `disabled`, `successful`, `trigger`'s thresholds), never on
the generated term, and normalise both sides with the facts about `&&`, `!`, `==` and `decide`, so that a
rewrite of the Python that keeps the meaning still proves.
-/
-- spellings of a test that the Python does not use today stay among the `simp` arguments
set_option linter.unusedSimpArgs false
namespace Exa.Health
open Exa.Generated Exa.Generated.PyHealth

/-- position of the state in `class States` -/
def St.code : St → Int
  | .init => 0 | .disabled => 1 | .rising => 2 | .falling => 3 | .up => 4 | .down => 5 | .exit => 6 | .end_ => 7

/-- `St.all` lists the states in the order of their codes, so the code determines the state. -/
theorem St.code_inj (a b : St) (h : a.code = b.code) : a = b := by
  have inv (t : St) : St.all[t.code.toNat]? = some t := by cases t <;> rfl
  have ha := inv a
  rw [h, inv b] at ha
  exact (Option.some.inj ha).symm

theorem St.bne_code (a b : St) : (a != b) = (a.code != b.code) := by
  by_cases h : a = b
  · rw [h, bne_self_eq_false, bne_self_eq_false]
  · rw [bne_iff_ne.2 h, bne_iff_ne.2 fun hc => h (St.code_inj a b hc)]

theorem py_trigger_eq_model (c : Cfg) (t : St) :
    PyHealth.Health.trigger t.code c.rise c.fall = (trigger c t).code := by
  cases t
  case rising => by_cases h : c.rise ≤ 1 <;> simp [PyHealth.Health.trigger, trigger, St.code, h]
  case falling => by_cases h : c.fall ≤ 1 <;> simp [PyHealth.Health.trigger, trigger, St.code, h]
  all_goals simp [PyHealth.Health.trigger, trigger, St.code]

/-- what the translated `one` returns, from what the model's `fsm` returns: the pair
    `(checks, state)`, the state handed to `exabgp` (`emitted`, unchanged when it is not called),
    or the `ValueError` of an unhandled state. -/
def pyOfFsm (c : Cfg) (l : Loop) (e0 : Int) (r : Loop × Option St × Bool) : PyRes HealthSt (Int × Int) :=
  if r.2.2 then .raise (-1) (-1)
  else .ret (r.1.checks, r.1.st.code) ⟨if !c.debounce || r.1.st != l.st then r.1.st.code else e0⟩

theorem pyOfFsm_ite (c : Cfg) (l : Loop) (e0 : Int) (p : Prop) [Decidable p] (a b : Loop × Option St × Bool) :
    pyOfFsm c l e0 (if p then a else b) = if p then pyOfFsm c l e0 a else pyOfFsm c l e0 b :=
  apply_ite ..

theorem pyOfFsm_raise (c : Cfg) (l l' : Loop) (e0 : Int) (o : Option St) :
    pyOfFsm c l e0 (l', o, true) = .raise (-1) (-1) := rfl

/-- a leaf of `fsm` in the shape of the translation's `if … : exabgp(state)` followed by `return` -/
theorem pyOfFsm_ret (c : Cfg) (l : Loop) (e0 n : Int) (t : St) (o : Option St) :
    pyOfFsm c l e0 (⟨n, t⟩, o, false) =
      if (!c.debounce || t.code != l.st.code) = true then .ret (n, t.code) ⟨t.code⟩
      else .ret (n, t.code) ⟨e0⟩ := by
  unfold pyOfFsm
  simp only [← St.bne_code, Bool.false_eq_true, if_false]
  split <;> rfl

/-- `one(checks, state)` as translated from /repo = the model's `fsm` (and so `one`, `handed`), for
    every configuration, loop state, disable-file state and check result. -/
theorem py_one_eq_model (c : Cfg) (l : Loop) (i : Inp) (e0 : Int) :
    PyHealth.Health.one ⟨e0⟩ l.checks l.st.code c.rise c.fall c.debounce c.hasDisable i.file i.ok =
      pyOfFsm c l e0 (fsm c l i) := by
  obtain ⟨k, st⟩ := l
  have hd : (c.hasDisable && i.file) = i.disabled c := rfl
  have hs : (i.disabled c || i.ok) = i.successful c := rfl
  -- For a given state and given values of `disabled` and `successful`, both sides are the same
  -- test on a threshold (if any) over leaves of the same shape.
  cases st <;> simp only [St.code] <;>
    simp only [
      -- the translation: the state's code being a numeral, its tests on the other codes are decided
      PyHealth.Health.one, hd, hs, Int.reduceBEq, Int.reduceBNe, Bool.true_and, Bool.false_eq_true,
      reduceIte,
      -- the model: `pyOfFsm` moves to the leaves of `fsm`, and each leaf takes the translation's
      -- shape, with the translated `trigger`
      fsm, pyOfFsm_ite, pyOfFsm_ret, pyOfFsm_raise, ← py_trigger_eq_model, St.bne_code,
      decide_eq_true_eq] <;>
    -- the codes of the states `fsm` names
    simp only [St.code, Int.reduceBNe, Bool.true_and, Bool.false_and, Bool.false_eq_true, reduceIte] <;>
    clear hd hs <;>
    cases i.disabled c <;> cases i.successful c <;>
    simp only [Bool.not_true, Bool.not_false, Bool.true_and, Bool.false_and, Bool.and_true,
      Bool.and_false, Bool.false_eq_true, decide_eq_true_eq, reduceIte] <;>
    rfl

end Exa.Health
