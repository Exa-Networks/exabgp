/-
  M-Attr7606, loop level: the decision taken for a malformed first occurrence (`decide1_malformed`), and what
  that means for the state the loop ends in (`loop_malformed`).
-/
import ExaModel.Lemmas.Attr7606Val

namespace Exa.Attr7606
open Exa Exa.Wire
open Exa.Generated.AttrTable (Row)

theorem rowOf_some {tb : List Row} {c : Nat} {row : Row} (h : rowOf tb c = some row) : row ∈ tb ∧ row.id = c :=
  ⟨List.mem_of_find?_eq_some h, by simpa using List.find?_some h⟩

theorem rowOk_flag {r : Row} (h : rowOk r = true) {o t : Bool} (hfs : flagSpecX r.id = some (o, t)) :
    r.flag = b2n o 128 + b2n t 64 := by
  simp only [rowOk, hfs, Bool.and_eq_true, beq_iff_eq] at h
  exact h.1.1

theorem rowOk_discard {r : Row} (h : rowOk r = true) (hs : r.id ∈ specCodes) (hd : r.discard = true)
    (hw : r.treatAsWithdraw = false) : rfc7606Class r.id = some .discard := by
  simp only [rowOk, Bool.and_eq_true] at h
  simpa [hs, hd, hw] using h.1.2

theorem rowOk_nonEmpty {r : Row} (h : rowOk r = true) (hn : r.id ∈ mustNonEmpty) : r.validZero = false := by
  simp only [rowOk, Bool.and_eq_true] at h
  simpa [hn] using h.2

/-! The masks of the loop leave the Optional and Transitive bits (`flag / 64`) alone. -/

theorem sub_div64 {f d : Nat} (h : d ≤ f % 64) : (f - d) / 64 = f / 64 := by omega

theorem maskLow_div64 (f : Nat) : maskLow f / 64 = f / 64 := by
  rw [maskLow, show 64 = 16 * 4 from rfl, ← Nat.div_div_eq_div_mul, Nat.mul_div_cancel _ (by decide),
    Nat.div_div_eq_div_mul]

theorem noPart_div64 (f : Nat) : noPart f / 64 = f / 64 := by
  unfold noPart b2n
  split
  · next h => exact sub_div64 (by have := beq_iff_eq.1 h; omega)
  · rfl

theorem noExt_div64 (f : Nat) : noExt f / 64 = f / 64 := by
  unfold noExt b2n
  split
  · next h => exact sub_div64 (by have := beq_iff_eq.1 h; omega)
  · rfl

theorem effFlag_div64 (tb : List Row) (t : Tlv) : effFlag tb t / 64 = t.flag / 64 := by
  unfold effFlag; split <;> simp only [noPart_div64, maskLow_div64]

theorem bits_of_div64 {f : Nat} {o t : Bool} (h : f / 64 = (b2n o 128 + b2n t 64) / 64) :
    (f / 128 % 2 == 1) = o ∧ (f / 64 % 2 == 1) = t := by
  rw [show 128 = 64 * 2 from rfl, ← Nat.div_div_eq_div_mul, h]
  cases o <;> cases t <;> exact ⟨rfl, rfl⟩

theorem flagsOk_of_registered (tb : List Row) (htb : ∀ r ∈ tb, rowOk r = true) (t : Tlv)
    (hreg : registered tb t.code (effFlag tb t) = true) : flagsOk t.code t.flag = true := by
  obtain ⟨r, hr, hrr⟩ := List.any_eq_true.1 hreg
  simp only [Bool.and_eq_true, beq_iff_eq] at hrr
  unfold flagsOk
  cases hfs : flagSpecX t.code with
  | none => rfl
  | some ot =>
    have h64 : t.flag / 64 = (b2n ot.1 128 + b2n ot.2 64) / 64 := by
      rw [← rowOk_flag (htb r hr) (hrr.1 ▸ hfs), hrr.2, noExt_div64, effFlag_div64]
    simp only [bits_of_div64 h64, beq_self_eq_true, Bool.and_self]

theorem decide1_overrun (fx : Fix) (tb : List Row) (xp : XP) (present : List Nat) (t : Tlv)
    (ho : t.overrun = true) : decide1 fx tb xp present t = .taw := by
  simp [decide1, ho]

theorem decide1_unregistered {fx : Fix} {tb : List Row} {xp : XP} {present : List Nat} {t : Tlv}
    (ho : t.overrun = false) (hrow : rowOf tb t.code = none) :
    decide1 fx tb xp present t =
      if present.contains t.code then .drop else if effFlag tb t / 64 % 2 == 1 then .keepGeneric else .drop := by
  simp only [decide1, ho, hrow, Bool.false_eq_true, if_false]

theorem decide1_row {fx : Fix} {tb : List Row} {xp : XP} {present : List Nat} {t : Tlv} {row : Row}
    (ho : t.overrun = false) (hrow : rowOf tb t.code = some row) :
    decide1 fx tb xp present t =
      if present.contains t.code then (if row.noDuplicate then .notify 3 1 else .drop)
      else if registered tb t.code (effFlag tb t) then
        if t.dlen == 0 && !row.validZero then .taw
        else match valOutcome fx xp t.code t.val with
          | .ok => .keep
          | .valueError => if row.treatAsWithdraw then .taw else if row.discard then .disc else .raise
          | .notify c s => if row.treatAsWithdraw then .taw else if row.discard then .disc else .notify c s
          | .unmodelled => .unmodelled
      else
        if row.treatAsWithdraw then .taw
        else if row.discard then .drop
        else .notify 3 4 := by
  simp only [decide1, ho, hrow, Bool.false_eq_true, if_false]; rfl

/-- What a decision on a malformed first occurrence may be: never kept; dropped or discarded only where the
    RFC class is attribute discard; anything else (treat-as-withdraw, an exception leaving `parse`) is fine. -/
def DecOk (code : Nat) : Dec → Prop
  | .keep => False
  | .keepGeneric => False
  | .drop => rfc7606Class code = some .discard
  | .disc => rfc7606Class code = some .discard
  | _ => True

theorem decide1_malformed {fx : Fix} {tb : List Row} {xp : XP} {present : List Nat} {t : Tlv}
    (htb : TableOk tb) (hm : malformed xp.p t = true) (hg : GapFree fx xp t)
    (hp : present.contains t.code = false) : DecOk t.code (decide1 fx tb xp present t) := by
  cases hov : t.overrun
  case true => rw [decide1_overrun _ _ _ _ _ hov]; trivial
  have hwf : wfAttr xp.p t.code t.flag t.val = false := by simpa [malformed, hov] using hm
  have hspec : t.code ∈ specCodes := by
    apply Decidable.by_contra
    intro hc
    rw [wfAttr_of_not_spec xp.p t.code t.flag t.val hc] at hwf
    cases hwf
  obtain ⟨row, hrow⟩ := Option.isSome_iff_exists.1 (htb.2 _ hspec)
  obtain ⟨hrmem, hrid⟩ := rowOf_some hrow
  have hrok := htb.1 row hrmem
  -- the class flags of the row choose: treat-as-withdraw first, then `x` under DISCARD alone, which the
  -- table has only for the discard class
  have hcls {x y : Dec} (hx : rfc7606Class t.code = some .discard → DecOk t.code x) (hy : DecOk t.code y) :
      DecOk t.code (if row.treatAsWithdraw then .taw else if row.discard then x else y) := by
    cases hw : row.treatAsWithdraw
    · cases hd : row.discard
      · exact hy
      · exact hx (hrid ▸ rowOk_discard hrok (hrid ▸ hspec) hd hw)
    · trivial
  rw [decide1_row hov hrow, hp, if_neg Bool.false_ne_true]
  cases hreg : registered tb t.code (effFlag tb t)
  case false => exact hcls id trivial
  cases hz : (t.dlen == 0 && !row.validZero)
  case true => trivial
  cases hvo : valOutcome fx xp t.code t.val
  case ok =>
    have hne : t.code ∈ mustNonEmpty → t.val ≠ [] := by
      intro hn hnil
      have : t.dlen = 0 := by
        have : ¬ t.val.length < t.dlen := by simpa [Tlv.overrun] using hov
        rw [hnil] at this
        exact Nat.eq_zero_of_not_pos this
      simp [this, rowOk_nonEmpty hrok (hrid ▸ hn)] at hz
    have hwv := valOutcome_wfVal xp t.code t.val (hg hvo) hne
    rw [wfAttr, flagsOk_of_registered tb htb.1 t hreg, hwv] at hwf
    cases hwf
  case unmodelled => trivial
  all_goals exact hcls id trivial

theorem loop_append (fx : Fix) (tb : List Row) (xp : XP) (a b : List Tlv) (st : LoopSt) :
    loop fx tb xp (a ++ b) st =
      (match loop fx tb xp a st with
       | .ok st' => loop fx tb xp b st'
       | .error e => .error e) := by
  fun_induction loop fx tb xp a st
  case case1 => rfl
  case case2 ha ih => rw [List.cons_append, loop, ha]; exact ih
  case case3 ha => rw [List.cons_append, loop, ha]

theorem loop_append_ok {fx : Fix} {tb : List Row} {xp : XP} {a b : List Tlv} {st st' : LoopSt}
    (h : loop fx tb xp (a ++ b) st = .ok st') :
    ∃ s1, loop fx tb xp a st = .ok s1 ∧ loop fx tb xp b s1 = .ok st' := by
  rw [loop_append] at h
  split at h
  · exact ⟨_, ‹_›, h⟩
  · cases h

theorem applyDec_ok {tb : List Row} {t : Tlv} {st st' : LoopSt} {d : Dec} (h : applyDec tb t st d = .ok st') :
    (st.taw = true → st'.taw = true) ∧
    (∀ k ∈ st'.kept, k ∈ st.kept ∨ k.code = t.code) := by
  have snoc (k' : Kept) (hk' : k'.code = t.code) : ∀ k ∈ st.kept ++ [k'], k ∈ st.kept ∨ k.code = t.code := by
    intro k hk
    rcases List.mem_append.1 hk with h | h
    · exact .inl h
    · exact .inr (List.mem_singleton.1 h ▸ hk')
  cases d <;> simp only [applyDec, Except.ok.injEq, reduceCtorEq] at h <;> subst h
  · exact ⟨id, snoc _ rfl⟩
  · exact ⟨id, snoc _ rfl⟩
  · exact ⟨fun _ => rfl, fun k hk => .inl hk⟩
  · exact ⟨id, fun k hk => .inl hk⟩
  · exact ⟨id, fun k hk => .inl hk⟩

theorem loop_taw_mono (fx : Fix) (tb : List Row) (xp : XP) (ts : List Tlv) (st st' : LoopSt)
    (h : loop fx tb xp ts st = .ok st') (ht : st.taw = true) : st'.taw = true := by
  fun_induction loop fx tb xp ts st
  case case1 => cases h; exact ht
  case case2 ha ih => exact ih h ((applyDec_ok ha).1 ht)
  case case3 => cases h

theorem loop_kept_codes (fx : Fix) (tb : List Row) (xp : XP) (ts : List Tlv) (st st' : LoopSt)
    (h : loop fx tb xp ts st = .ok st') (k : Kept) (hk : k ∈ st'.kept) :
    k ∈ st.kept ∨ ∃ u ∈ ts, u.code = k.code := by
  fun_induction loop fx tb xp ts st
  case case1 => cases h; exact .inl hk
  case case2 t ts st s1 ha ih =>
    rcases ih h with h1 | ⟨u, hu, huc⟩
    · exact ((applyDec_ok ha).2 k h1).imp_right fun h2 => ⟨t, List.mem_cons_self .., h2.symm⟩
    · exact .inr ⟨u, List.mem_cons_of_mem _ hu, huc⟩
  case case3 => cases h

theorem loop_disc_irrel (fx : Fix) (tb : List Row) (xp : XP) : ∀ (ts : List Tlv) (st s : LoopSt),
    loop fx tb xp ts { st with disc := true } = .ok s →
    ∃ s', loop fx tb xp ts st = .ok s' ∧ s'.kept = s.kept ∧ s'.taw = s.taw
  | [], st, s, h => by
    simp only [loop, Except.ok.injEq] at h; subst h
    exact ⟨st, rfl, rfl, rfl⟩
  | t :: ts, st, s, h => by
    rw [loop] at h ⊢
    cases hd : decide1 fx tb xp (st.kept.map (·.code)) t <;> simp only [hd, applyDec] at h ⊢
    case disc => exact ⟨s, h, rfl, rfl⟩
    case notify | raise | unmodelled => cases h
    all_goals exact loop_disc_irrel fx tb xp ts _ s h

/-- The loop on a block with a malformed first occurrence `t`: it ends marked treat-as-withdraw, or `t` is of
    the attribute-discard class and the loop ends as it does on the block without `t` (same attributes, same
    treat-as-withdraw marker). -/
theorem loop_malformed {fx : Fix} {tb : List Row} {xp : XP} (htb : TableOk tb)
    (pre : List Tlv) (t : Tlv) (post : List Tlv) (st0 st : LoopSt)
    (h : loop fx tb xp (pre ++ t :: post) st0 = .ok st)
    (hpre : ∀ u ∈ pre, u.code ≠ t.code) (hst0 : ∀ k ∈ st0.kept, k.code ≠ t.code)
    (hm : malformed xp.p t = true) (hg : GapFree fx xp t) :
    st.taw = true ∨
    (rfc7606Class t.code = some .discard ∧
      ∃ st', loop fx tb xp (pre ++ post) st0 = .ok st' ∧ st'.kept = st.kept ∧ st'.taw = st.taw) := by
  obtain ⟨s1, h1, h⟩ := loop_append_ok h
  have hp : (s1.kept.map (·.code)).contains t.code = false := by
    rw [Bool.eq_false_iff]
    intro hc
    obtain ⟨k, hk, hkc⟩ := List.mem_map.1 (List.contains_iff_mem.1 hc)
    rcases loop_kept_codes fx tb xp pre st0 s1 h1 k hk with h2 | ⟨u, hu, huc⟩
    · exact hst0 k h2 hkc
    · exact hpre u hu (huc.trans hkc)
  have hd := decide1_malformed htb hm hg hp
  have hpp : loop fx tb xp (pre ++ post) st0 = loop fx tb xp post s1 := by rw [loop_append, h1]
  rw [loop] at h
  cases hdd : decide1 fx tb xp (s1.kept.map (·.code)) t <;> simp only [hdd, applyDec, DecOk] at h hd
  case taw => exact .inl (loop_taw_mono fx tb xp post _ st h rfl)
  case disc =>
    obtain ⟨s', hs', hk, ht⟩ := loop_disc_irrel fx tb xp post s1 st h
    exact .inr ⟨hd, s', hpp ▸ hs', hk, ht⟩
  case drop => exact .inr ⟨hd, st, hpp ▸ h, rfl, rfl⟩
  all_goals cases h

end Exa.Attr7606
