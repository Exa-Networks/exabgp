import ExaModel.Model.Wire
/-! RFC 6793 §4.2.3 on segments: what `takeUnits` keeps. -/
namespace Exa.Wire
open Exa

def flatAsns (s : List Seg) : List Nat := s.flatMap (fun x => x.2)

theorem pathCount_append (a b : List Seg) : pathCount (a ++ b) = pathCount a + pathCount b := by
  induction a with
  | nil => exact (Nat.zero_add _).symm
  | cons s t ih => rw [List.cons_append, pathCount, pathCount, ih, Nat.add_assoc]

/-- Confederation segments count for nothing: discarding them from an AS4_PATH leaves its count. -/
theorem pathCount_plainSegs (s : List Seg) : pathCount (plainSegs s) = pathCount s := by
  induction s with
  | nil => rfl
  | cons x t ih =>
    unfold plainSegs at ih ⊢
    by_cases h1 : x.1 = 1
    · simp [h1, pathCount, ih]
    · by_cases h2 : x.1 = 2
      · simp [h2, pathCount, ih]
      · simp [h1, h2, pathCount, segCount, ih]

theorem pathCount_seq {x : Seg} (h : x.1 = 2) (t : List Seg) : pathCount (x :: t) = x.2.length + pathCount t := by
  rw [pathCount, segCount, if_pos h]

theorem pathCount_set {x : Seg} (h : x.1 = 1) (t : List Seg) : pathCount (x :: t) = 1 + pathCount t := by
  rw [pathCount, segCount, h, if_neg (by decide), if_pos rfl]

theorem pathCount_confed {x : Seg} (h2 : ¬ x.1 = 2) (h1 : ¬ x.1 = 1) (t : List Seg) :
    pathCount (x :: t) = pathCount t := by
  rw [pathCount, segCount, if_neg h2, if_neg h1, Nat.zero_add]

theorem pathCount_takeUnits (s : List Seg) (k : Nat) (h : k ≤ pathCount s) :
    pathCount (takeUnits k s) = k := by
  fun_induction takeUnits k s with
  | case1 k => exact (Nat.le_zero.1 h).symm  -- empty path
  | case3 | case5 => rfl  -- `k = 0` at a sequence / a set
  | case2 k x t h2 hl ih =>  -- a sequence that fits
    rw [pathCount_seq h2] at h ⊢
    rw [ih (by omega)]; omega
  | case4 k x t h2 hl hk =>  -- the sequence that is cut
    rw [pathCount_seq (x := (x.1, x.2.take k)) h2, List.length_take]
    simp only [pathCount]; omega
  | case6 k x t h2 h1 hk ih =>  -- a set
    rw [pathCount_set h1] at h ⊢
    rw [ih (by omega)]; omega
  | case7 k x t h2 h1 ih =>  -- a confederation segment
    rw [pathCount_confed h2 h1] at h ⊢
    exact ih h

theorem flatAsns_takeUnits_prefix (s : List Seg) (k : Nat) : flatAsns (takeUnits k s) <+: flatAsns s := by
  fun_induction takeUnits k s with
  | case1 => exact List.prefix_refl _
  | case3 | case5 => exact List.nil_prefix
  | case4 k x t =>
    simp only [flatAsns, List.flatMap_cons, List.flatMap_nil, List.append_nil]
    exact List.IsPrefix.trans (List.take_prefix _ _) (List.prefix_append _ _)
  | case2 k x t _ _ ih | case6 k x t _ _ _ ih | case7 k x t _ _ ih =>
    exact (List.prefix_append_right_inj _).2 ih

theorem takeUnits_all (s : List Seg) (k : Nat) (h : pathCount s ≤ k) : takeUnits k s = s := by
  fun_induction takeUnits k s with
  | case1 => rfl
  | case2 k x t h2 hl ih => rw [pathCount_seq h2] at h; rw [ih (by omega)]  -- a sequence that fits
  | case3 x t h2 hl | case4 k x t h2 hl => rw [pathCount_seq h2] at h; omega  -- a sequence that does not
  | case5 x t h2 h1 => rw [pathCount_set h1] at h; omega  -- a set, `k = 0`
  | case6 k x t h2 h1 hk ih => rw [pathCount_set h1] at h; rw [ih (by omega)]  -- a set
  | case7 k x t h2 h1 ih => rw [pathCount_confed h2 h1] at h; rw [ih h]  -- a confederation segment

end Exa.Wire
