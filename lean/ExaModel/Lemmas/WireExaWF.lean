import ExaModel.Lemmas.WireExa
/-!
  M-Wire-Exa: every semantic attribute ExaBGP emits is well formed for the RFC
  decoder (flags of its class, value in range), and the type codes of a slot are known — hence no
  duplicate attribute in the block.
-/
namespace Exa.WireExa
open Exa Exa.Wire
open Exa.Generated.ExaEncTable

/-- Well formed up to the bound on the value length (which comes from the size of the whole block). -/
def PreWF (p : Params) (a : Attr) : Prop :=
  a.flags.ext = decide ((encVal p a.val).length > 255) ∧ flagErr a.flags a.val.code = none ∧ WFVal p a.val

theorem flagErr_exa (o t : Bool) (n c : Nat) (h : flagSpec c = some (o, t)) : flagErr (exaFlags o t n) c = none := by
  simp [flagErr, h, exaFlags]

theorem prewf_mk (p : Params) (o t : Bool) (val : AttrVal) (hs : flagSpec val.code = some (o, t))
    (hv : WFVal p val) : PreWF p (mk p o t val) :=
  ⟨rfl, flagErr_exa o t _ _ hs, hv⟩

theorem wfattr_of_prewf (p : Params) (a : Attr) (h : PreWF p a) (hl : (encVal p a.val).length < 65536) :
    WFAttr p a := by
  refine ⟨h.2.1, h.2.2, ?_⟩
  rw [h.1]
  by_cases c : (encVal p a.val).length > 255
  · simp [c]; exact hl
  · simp [c]; omega

theorem encVal_lt_encAttr (p : Params) (a : Attr) : (encVal p a.val).length < (encAttr p a).length := by
  simp [encAttr]; omega

theorem encAttr_le_encAttrs (p : Params) (l : List Attr) (a : Attr) (h : a ∈ l) :
    (encAttr p a).length ≤ (encAttrs p l).length := by
  induction l with
  | nil => cases h
  | cons x t ih =>
    simp only [encAttrs, List.length_append]
    rcases List.mem_cons.1 h with h | h
    · subst h; omega
    · have := ih h; omega

theorem wfattrs_of_prewf (p : Params) (l : List Attr) (h : ∀ a ∈ l, PreWF p a)
    (hl : (encAttrs p l).length < 65536) : ∀ a ∈ l, WFAttr p a := by
  intro a ha
  have h1 := encVal_lt_encAttr p a
  have h2 := encAttr_le_encAttrs p l a ha
  exact wfattr_of_prewf p a (h a ha) (by omega)

theorem transAsn_lt (a : Nat) : transAsn a < 65536 := by
  fun_cases transAsn a
  case case1 => exact (by decide : 23456 < 65536)
  case case2 h => simp [isBig, asnMax2] at h; omega

theorem wfseg_true (s : Seg) (h : (s.1 = 1 ∨ s.1 = 2) ∧ 1 ≤ s.2.length ∧ s.2.length ≤ 255 ∧ ∀ a ∈ s.2, U32 a) :
    WFSeg true s := by
  refine ⟨by omega, by omega, h.2.1, h.2.2.1, ?_⟩
  intro a ha; have := h.2.2.2 a ha; unfold U32 at this; simpa using this

def PathOk (segs : List Seg) : Prop :=
  ∀ s ∈ segs, (s.1 = 1 ∨ s.1 = 2) ∧ 1 ≤ s.2.length ∧ s.2.length ≤ 255 ∧ ∀ a ∈ s.2, U32 a

theorem wfseg_trans (segs : List Seg) (h : PathOk segs) : ∀ s ∈ transSegs segs, WFSeg false s := by
  intro s hs
  simp only [transSegs, List.mem_map] at hs
  obtain ⟨s0, h0, e⟩ := hs
  subst e
  have := h s0 h0
  refine ⟨by simp; omega, by simp; omega, by simpa using this.2.1, by simpa using this.2.2.1, ?_⟩
  intro a ha
  simp only [List.mem_map] at ha
  obtain ⟨a0, _, e⟩ := ha
  subst e
  simpa using transAsn_lt a0

theorem plainSegs_of_PathOk (segs : List Seg) (h : PathOk segs) : plainSegs segs = segs := by
  unfold plainSegs
  apply List.filter_eq_self.2
  intro s hs
  rcases (h s hs).1 with h1 | h2
  · simp [h1]
  · simp [h2]

theorem forall_mem_ite {α : Type} {P : α → Prop} (e : Prop) [Decidable e] {l l' : List α}
    (h : ∀ x ∈ l, P x) (h' : ∀ x ∈ l', P x) : ∀ x ∈ (if e then l else l'), P x := by
  by_cases he : e
  · rw [if_pos he]; exact h
  · rw [if_neg he]; exact h'

theorem prewf_semAsPath (p : SessParams) (segs : List Seg) (h : PathOk segs) :
    ∀ a ∈ semAsPath p segs, PreWF (paramsOf p) a := by
  have e2 : ∀ b s, p.asn4 = b → (∀ x ∈ s, WFSeg b x) → PreWF (paramsOf p) (mk (paramsOf p) false true (.asPath s)) :=
    fun b s hb hs => prewf_mk _ false true (.asPath s) rfl (by rw [← hb] at hs; exact hs)
  unfold semAsPath
  cases h4 : p.asn4
  · rw [if_neg Bool.false_ne_true]
    exact List.forall_mem_cons.2 ⟨e2 _ _ h4 (wfseg_trans segs h),
      forall_mem_ite _ (List.forall_mem_singleton.2 (prewf_mk _ true true (.as4Path (plainSegs segs)) rfl
        fun s hs => wfseg_true s (h s (List.mem_filter.mp hs).1))) (List.forall_mem_nil _)⟩
  · rw [if_pos rfl]; exact List.forall_mem_singleton.2 (e2 _ _ h4 fun s hs => wfseg_true s (h s hs))

theorem prewf_semAggregator (p : SessParams) (asn ip : Nat) (h1 : U32 asn) (h2 : U32 ip) :
    ∀ a ∈ semAggregator p asn ip, PreWF (paramsOf p) a := by
  have e7 : ∀ b a, p.asn4 = b → a < (if b then 4294967296 else 65536) →
      PreWF (paramsOf p) (mk (paramsOf p) true true (.aggregator a ip)) :=
    fun b a hb ha => prewf_mk _ true true (.aggregator a ip) rfl ⟨by rw [← hb] at ha; exact ha, h2⟩
  unfold semAggregator
  cases h4 : p.asn4
  · rw [if_neg Bool.false_ne_true]
    cases hb : isBig asn
    · rw [Bool.not_false, if_pos rfl]
      exact List.forall_mem_singleton.2 (e7 _ _ h4 (by simpa [isBig, asnMax2, Nat.lt_succ_iff] using hb))
    · rw [Bool.not_true, if_neg Bool.false_ne_true]
      exact List.forall_mem_cons.2 ⟨e7 _ _ h4 (by decide), List.forall_mem_singleton.2 (prewf_mk _ true true (.as4Aggregator asn ip) rfl ⟨h1, h2⟩)⟩
  · rw [if_pos rfl]; exact List.forall_mem_singleton.2 (e7 _ _ h4 h1)

theorem u32s_flat2 (cs : List (Nat × Nat)) (h : ∀ c ∈ cs, U32 c.1 ∧ U32 c.2) : U32s (flat2 cs) := by
  induction cs with
  | nil => exact List.forall_mem_nil _
  | cons c t ih =>
    have hc := h c (by simp)
    exact List.forall_mem_cons.2 ⟨hc.1, List.forall_mem_cons.2 ⟨hc.2, ih fun c hc' => h c (List.mem_cons_of_mem _ hc')⟩⟩

theorem u32s_flat3 (cs : List (Nat × Nat × Nat)) (h : ∀ c ∈ cs, U32 c.1 ∧ U32 c.2.1 ∧ U32 c.2.2) :
    U32s (flat3 cs) := by
  induction cs with
  | nil => exact List.forall_mem_nil _
  | cons c t ih =>
    have hc := h c (by simp)
    exact List.forall_mem_cons.2 ⟨hc.1, List.forall_mem_cons.2 ⟨hc.2.1, List.forall_mem_cons.2 ⟨hc.2.2,
      ih fun c hc' => h c (List.mem_cons_of_mem _ hc')⟩⟩⟩

theorem prewf_semGiven (p : SessParams) (a : ReqAttr) (h : WFReqAttr a) :
    ∀ x ∈ semGiven p a, PreWF (paramsOf p) x := by
  cases a with
  | asPath segs => exact prewf_semAsPath p segs h
  | aggregator asn ip => exact prewf_semAggregator p asn ip h.1 h.2
  | origin v => exact List.forall_mem_singleton.2 (prewf_mk _ false true (.origin v) rfl h)
  | med v => exact List.forall_mem_singleton.2 (prewf_mk _ true false (.med v) rfl h)
  | localPref v => exact List.forall_mem_singleton.2 (prewf_mk _ false true (.localPref v) rfl h)
  | atomicAggregate => exact List.forall_mem_singleton.2 (prewf_mk _ false true .atomicAggregate rfl trivial)
  | originatorId ip => exact List.forall_mem_singleton.2 (prewf_mk _ true false (.originatorId ip) rfl h)
  | communities cs =>
    exact forall_mem_ite _ (List.forall_mem_nil _)
      (List.forall_mem_singleton.2 (prewf_mk _ true true (.communities cs) rfl h))
  | clusterList ids =>
    exact forall_mem_ite _ (List.forall_mem_nil _)
      (List.forall_mem_singleton.2 (prewf_mk _ true false (.clusterList ids) rfl h))
  | extCommunities cs =>
    exact forall_mem_ite _ (List.forall_mem_nil _)
      (List.forall_mem_singleton.2 (prewf_mk _ true true (.extCommunities cs) rfl (u32s_flat2 cs h)))
  | largeCommunities cs =>
    exact forall_mem_ite _ (List.forall_mem_nil _)
      (List.forall_mem_singleton.2 (prewf_mk _ true true (.largeCommunities cs) rfl (u32s_flat3 cs h)))

theorem negLocalAs_u32 (p : SessParams) (hl : U32 p.localAs) : U32 (negLocalAs p) := by
  fun_cases negLocalAs p
  case case2 => exact (by decide : 23456 < 4294967296)
  all_goals exact hl

theorem defaultPath_ok (p : SessParams) (hl : U32 p.localAs) : PathOk (defaultPath p) := by
  fun_cases defaultPath p
  · exact List.forall_mem_nil _
  · exact List.forall_mem_singleton.2
      ⟨Or.inr rfl, Nat.le_refl 1, (by decide : 1 ≤ 255), List.forall_mem_singleton.2 (negLocalAs_u32 p hl)⟩

/-- One premise per outcome of a slot of the packing loop: NEXT_HOP, nothing, the three defaults, a keyword as
    `given` returns it. -/
theorem semCode_cases (p : SessParams) (r : RouteReq) (nh : Bytes) (Q : Nat → List Attr → Prop)
    (h3 : nh.length = 4 → Q 3 [mk (paramsOf p) false true (.nextHop (rd32 nh))])
    (hnil : ∀ c, Q c [])
    (h1 : Q 1 [mk (paramsOf p) false true (.origin 0)])
    (h2 : Q 2 (semAsPath p (defaultPath p)))
    (h5 : Q 5 [mk (paramsOf p) false true (.localPref 100)])
    (hg : ∀ c a, given r.attrs c = some a → Q c (semGiven p a)) (c : Nat) : Q c (semCode p r nh c) := by
  fun_cases semCode p r nh c
  case case1 c3 hl => exact c3 ▸ h3 hl  -- NEXT_HOP, four bytes
  case case3 _ _ c1 => exact c1 ▸ h1  -- no ORIGIN given
  case case4 _ _ _ c2 => exact c2 ▸ h2  -- no AS_PATH given
  case case5 _ _ _ _ c5 _ => exact c5 ▸ h5  -- no LOCAL_PREF given, same AS
  case case9 _ a hgv _ => exact hg c a hgv  -- a keyword, not LOCAL_PREF towards another AS
  all_goals exact hnil c

theorem prewf_semCode (p : SessParams) (r : RouteReq) (nh : Bytes) (c : Nat) (hl : U32 p.localAs)
    (hw : ∀ a ∈ r.attrs, WFReqAttr a) (hnh : nh.length = 4 → WFBytes nh) :
    ∀ x ∈ semCode p r nh c, PreWF (paramsOf p) x :=
  semCode_cases p r nh (fun _ l => ∀ x ∈ l, PreWF (paramsOf p) x)
    (fun h4 => List.forall_mem_singleton.2 (prewf_mk _ false true (.nextHop (rd32 nh)) rfl (rd32_lt nh h4 (hnh h4))))
    (fun _ => List.forall_mem_nil _)
    (List.forall_mem_singleton.2 (prewf_mk _ false true (.origin 0) rfl (by decide : 0 ≤ 2)))
    (prewf_semAsPath p _ (defaultPath_ok p hl))
    (List.forall_mem_singleton.2 (prewf_mk _ false true (.localPref 100) rfl (by decide : 100 < 4294967296)))
    (fun c a hg => prewf_semGiven p a (wf_given r.attrs hw c a hg)) c

theorem prewf_semAll (p : SessParams) (r : RouteReq) (nh : Bytes) (hl : U32 p.localAs)
    (hw : ∀ a ∈ r.attrs, WFReqAttr a) (hnh : nh.length = 4 → WFBytes nh) :
    ∀ x ∈ semAll p r nh, PreWF (paramsOf p) x := by
  intro x hx
  obtain ⟨c, _, hc⟩ := List.mem_flatMap.1 hx
  exact prewf_semCode p r nh c hl hw hnh x hc

/-- The type codes slot `c` of the packing loop can emit. -/
def slotCodes (c : Nat) : List Nat := if c = 2 then [2, 17] else if c = 7 then [7, 18] else [c]

theorem sublist_pair (a b : Nat) : [a].Sublist [a, b] := .cons_cons a (.cons b .slnil)

theorem codes_semAsPath (p : SessParams) (segs : List Seg) :
    List.Sublist ((semAsPath p segs).map Attr.code) [2, 17] := by
  unfold semAsPath
  cases p.asn4
  · cases hasBig (plainSegs segs)
    · exact sublist_pair 2 17
    · exact .refl _
  · exact sublist_pair 2 17

theorem codes_semAggregator (p : SessParams) (asn ip : Nat) :
    List.Sublist ((semAggregator p asn ip).map Attr.code) [7, 18] := by
  unfold semAggregator
  cases p.asn4
  · cases isBig asn
    · exact sublist_pair 7 18
    · exact .refl _
  · exact sublist_pair 7 18

theorem codes_ite (e : Prop) [Decidable e] (a : Attr) :
    List.Sublist ((if e then [] else [a]).map Attr.code) [a.code] := by
  by_cases he : e
  · rw [if_pos he]; exact List.nil_sublist _
  · rw [if_neg he]; exact .refl _

theorem codes_semGiven (p : SessParams) (a : ReqAttr) : List.Sublist ((semGiven p a).map Attr.code) (slotCodes a.code) := by
  cases a with
  | asPath segs => exact codes_semAsPath p segs
  | aggregator asn ip => exact codes_semAggregator p asn ip
  | communities cs => exact codes_ite _ _
  | clusterList cs => exact codes_ite _ _
  | extCommunities cs => exact codes_ite _ _
  | largeCommunities cs => exact codes_ite _ _
  | _ => exact .refl _

theorem codes_semCode (p : SessParams) (r : RouteReq) (nh : Bytes) (c : Nat) :
    List.Sublist ((semCode p r nh c).map Attr.code) (slotCodes c) :=
  semCode_cases p r nh (fun c l => List.Sublist (l.map Attr.code) (slotCodes c))
    (fun _ => .refl _) (fun _ => List.nil_sublist _) (.refl _) (codes_semAsPath p _) (.refl _)
    (fun c a hg => given_code r.attrs c a hg ▸ codes_semGiven p a) c

/-- All type codes of the block, in the order ExaBGP writes them. -/
def allCodes : List Nat := [1, 2, 17, 3, 4, 5, 6, 7, 18, 8, 9, 10, 16, 32]

theorem sublist_flatMap {α : Type} (ks : List Nat) (f g : Nat → List α) (h : ∀ k, (f k).Sublist (g k)) :
    (ks.flatMap f).Sublist (ks.flatMap g) := by
  induction ks with
  | nil => exact .slnil
  | cons k t ih => exact (h k).append ih

theorem codes_semAll (p : SessParams) (r : RouteReq) (nh : Bytes) :
    List.Sublist ((semAll p r nh).map Attr.code) allCodes := by
  unfold semAll
  rw [List.map_flatMap]
  exact sublist_flatMap codeOrder _ slotCodes (codes_semCode p r nh)

theorem code_mem_slotCodes (p : SessParams) (r : RouteReq) (nh : Bytes) (c : Nat) (a : Attr)
    (h : a ∈ semCode p r nh c) : a.code ∈ slotCodes c :=
  (codes_semCode p r nh c).subset (List.mem_map_of_mem h)

end Exa.WireExa
