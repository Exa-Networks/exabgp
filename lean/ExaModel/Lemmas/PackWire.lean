import ExaModel.Lemmas.Wire
import ExaModel.Lemmas.PackSpec
/-!
  M-Pack ↔ M-Wire: the UPDATE a message of the partition stands for.

  M-Pack works over sizes.  `Real` supplies what is behind the sizes — the session parameters, the
  (afi, safi) of every family identifier, a wire NLRI for every abstract NLRI, the bytes of every
  next hop and the common attribute block as a list of RFC attributes — and `realise ρ m` is the
  `Exa.Wire.UpdateSem` a message `m` then denotes, laid out the way `messages` lays it out:
  `prefix(withdraws) + prefix(mp_unreach + attr + mp_reach) + announced`.

  `Realises ρ i` lists the side conditions under which the sizes M-Pack computes ARE the lengths
  of the reference encoding (`realise_len`) and the encoding is one a peer accepts
  (`realise_wf` : `Wire.WFUpdate`), so that `decodeRaw_encodeUpdate` applies.
-/
namespace Exa.Pack
open Exa

/-- what is behind the sizes -/
structure Real where
  p : Wire.Params
  /-- family identifier of M-Pack → (afi, safi) -/
  famOf : Nat → Nat × Nat
  /-- the wire NLRI of an abstract NLRI -/
  nl : Nlri → Wire.Nlri
  /-- next-hop identity → next-hop bytes -/
  nhb : Nat → Bytes
  /-- the common attribute block `attr` -/
  blk : List Wire.Attr

/-- flags `MPNLRICollection._attribute_header` writes: optional, extended length above 255 -/
def mpFlags (payload : Nat) : Wire.Flags :=
  { opt := true, trans := false, part := false, ext := decide (payload > 255) }

def reachAttr (ρ : Real) (r : Mp) : Wire.Attr :=
  { flags := mpFlags r.payload,
    val := .mpReach (ρ.famOf r.fam).1 (ρ.famOf r.fam).2 (ρ.nhb r.nh) (r.items.map ρ.nl) }

def unreachAttr (ρ : Real) (u : Mp) : Wire.Attr :=
  { flags := mpFlags u.payload,
    val := .mpUnreach (ρ.famOf u.fam).1 (ρ.famOf u.fam).2 (u.items.map ρ.nl) }

def oattr (f : Mp → Wire.Attr) : Option Mp → List Wire.Attr
  | none => []
  | some a => [f a]

/-- **the UPDATE a message stands for** -/
def realise (ρ : Real) (m : Msg) : Wire.UpdateSem :=
  { withdrawn := m.wd4.map ρ.nl,
    attrs := oattr (unreachAttr ρ) m.unreach ++ ((if m.attrs then ρ.blk else []) ++ oattr (reachAttr ρ) m.reach),
    nlri := m.ann4.map ρ.nl }

/-- `x` in a classic field (`wd`: Withdrawn Routes): its encoding has the size M-Pack uses and is well formed -/
def RealV4 (ρ : Real) (wd : Bool) (x : Nlri) : Prop :=
  (Wire.encNlri 1 wd (ρ.nl x)).length = x.size ∧ Wire.WFNlri 1 1 (ρ.p.ap 1 1) wd (ρ.nl x)

/-- `x` in an MP attribute of its family -/
def RealMp (ρ : Real) (wd : Bool) (x : Nlri) : Prop :=
  (Wire.encNlri (ρ.famOf x.fam).2 wd (ρ.nl x)).length = x.size ∧
  Wire.WFNlri (ρ.famOf x.fam).1 (ρ.famOf x.fam).2 (ρ.p.ap (ρ.famOf x.fam).1 (ρ.famOf x.fam).2) wd (ρ.nl x) ∧
  Wire.supported (ρ.famOf x.fam).1 (ρ.famOf x.fam).2 = true

/-- the next hop of an MP announce: bytes of the length M-Pack uses, a length RFC 4760/2545/8950 allow -/
def RealNh (ρ : Real) (x : Nlri) : Prop :=
  (ρ.nhb x.nh).length = x.nhLen ∧ x.nhLen < 256 ∧
  Wire.nhLenOk ρ.p (ρ.famOf x.fam).1 (ρ.famOf x.fam).2 x.nhLen = true

instance (ρ : Real) (wd : Bool) (x : Nlri) : Decidable (RealV4 ρ wd x) := by unfold RealV4; exact inferInstance
instance (ρ : Real) (wd : Bool) (x : Nlri) : Decidable (RealMp ρ wd x) := by unfold RealMp; exact inferInstance
instance (ρ : Real) (x : Nlri) : Decidable (RealNh ρ x) := by unfold RealNh; exact inferInstance

/-- **side conditions**: `ρ` is a realisation of the request `i` -/
structure Realises (ρ : Real) (i : Input) : Prop where
  msgSize : ρ.p.msgSize = i.M
  small : i.M ≤ 65535
  /-- the attribute block has the length M-Pack was given -/
  blkLen : (Wire.encAttrs ρ.p ρ.blk).length = chosenAttr i
  blkWF : ∀ a ∈ ρ.blk, Wire.WFAttr ρ.p a
  /-- one attribute per type code, and MP_REACH / MP_UNREACH are not in the common block -/
  blkNodup : (ρ.blk.map Wire.Attr.code).Nodup
  blk14 : 14 ∉ ρ.blk.map Wire.Attr.code
  blk15 : 15 ∉ ρ.blk.map Wire.Attr.code
  va : ∀ x ∈ v4Anns i, RealV4 ρ false x
  vw : ∀ x ∈ v4Wds i, RealV4 ρ true x
  ma : ∀ x ∈ mpAnns i, RealMp ρ false x ∧ RealNh ρ x
  mw : ∀ x ∈ mpWds i, RealMp ρ true x
  /-- RFC 4271 mandatory attributes are in the block when something is announced -/
  mand4 : v4Anns i ≠ [] → Wire.hasCode ρ.blk 1 = true ∧ Wire.hasCode ρ.blk 2 = true ∧ Wire.hasCode ρ.blk 3 = true
  mandMp : mpAnns i ≠ [] → Wire.hasCode ρ.blk 1 = true ∧ Wire.hasCode ρ.blk 2 = true

theorem RealMp.at {ρ : Real} {wd : Bool} {x : Nlri} {f : Nat} (h : RealMp ρ wd x) (hf : x.fam = f) :
    (Wire.encNlri (ρ.famOf f).2 wd (ρ.nl x)).length = x.size ∧
    Wire.WFNlri (ρ.famOf f).1 (ρ.famOf f).2 (ρ.p.ap (ρ.famOf f).1 (ρ.famOf f).2) wd (ρ.nl x) ∧
    Wire.supported (ρ.famOf f).1 (ρ.famOf f).2 = true :=
  hf ▸ h

theorem mem_oattr {f : Mp → Wire.Attr} {o : Option Mp} {a : Wire.Attr} :
    a ∈ oattr f o ↔ ∃ x, o = some x ∧ a = f x := by
  cases o <;> simp [oattr]

theorem mem_realise_attrs {ρ : Real} {m : Msg} {a : Wire.Attr} :
    a ∈ (realise ρ m).attrs ↔
      (∃ u, m.unreach = some u ∧ a = unreachAttr ρ u) ∨ (m.attrs = true ∧ a ∈ ρ.blk) ∨
      (∃ r, m.reach = some r ∧ a = reachAttr ρ r) := by
  simp only [realise, List.mem_append, mem_oattr]
  cases m.attrs <;> simp

theorem encNlris_map_length (nl : Nlri → Wire.Nlri) (safi : Nat) (wd : Bool) :
    ∀ l : List Nlri, (∀ x ∈ l, (Wire.encNlri safi wd (nl x)).length = x.size) →
      (Wire.encNlris safi wd (l.map nl)).length = sz l
  | [], _ => rfl
  | x :: xs, h => by
    simp only [List.map_cons, Wire.encNlris, List.length_append, sz_cons]
    rw [h x List.mem_cons_self, encNlris_map_length nl safi wd xs (fun y hy => h y (List.mem_cons_of_mem _ hy))]

theorem encodeUpdate_length (p : Wire.Params) (u : Wire.UpdateSem) :
    (Wire.encodeUpdate p u).length = 2 + ((Wire.encNlris 1 true u.withdrawn).length
      + (2 + ((Wire.encAttrs p u.attrs).length + (Wire.encNlris 1 false u.nlri).length))) := by
  simp only [Wire.encodeUpdate, List.length_append, be16_length]

theorem encAttr_mp_length (p : Wire.Params) (v : Wire.AttrVal) (n : Nat) (h : (Wire.encVal p v).length = n) :
    (Wire.encAttr p { flags := mpFlags n, val := v }).length = hdrLen n + n := by
  unfold Wire.encAttr Wire.encLen mpFlags hdrLen
  simp only [h]
  by_cases hn : n > 255 <;> simp [hn] <;> omega

theorem encAttrs_oattr_length (p : Wire.Params) (f : Mp → Wire.Attr) (o : Option Mp)
    (h : ∀ a, o = some a → (Wire.encAttr p (f a)).length = a.wire) : (Wire.encAttrs p (oattr f o)).length = owire o := by
  cases o with
  | none => rfl
  | some a => simpa [oattr, Wire.encAttrs] using h a rfl

theorem mpFlags_room (n : Nat) (h : hdrLen n + n ≤ 65535) : n < (if (mpFlags n).ext = true then 65536 else 256) := by
  unfold mpFlags hdrLen at *
  by_cases hn : n > 255 <;> simp [hn] at h ⊢ <;> omega

/-- the parts of a body no longer than a message fit their 16-bit length fields -/
theorem parts_le {W A N u b r M : Nat} (hl : 19 + (2 + (W + (2 + (A + N)))) ≤ M) (ha : A = u + b + r)
    (hM : M ≤ 65535) : W < 65536 ∧ A < 65536 ∧ u ≤ 65535 ∧ r ≤ 65535 := by
  omega

theorem reachVal_length (ρ : Real) (r : Mp) (hh : r.hdr = 5 + (ρ.nhb r.nh).length)
    (hs : ∀ x ∈ r.items, (Wire.encNlri (ρ.famOf r.fam).2 false (ρ.nl x)).length = x.size) :
    (Wire.encVal ρ.p (reachAttr ρ r).val).length = r.payload := by
  have := encNlris_map_length ρ.nl (ρ.famOf r.fam).2 false r.items hs
  simp [reachAttr, Wire.encVal, this, Mp.payload, hh]; omega

theorem unreachVal_length (ρ : Real) (u : Mp) (hh : u.hdr = 3)
    (hs : ∀ x ∈ u.items, (Wire.encNlri (ρ.famOf u.fam).2 true (ρ.nl x)).length = x.size) :
    (Wire.encVal ρ.p (unreachAttr ρ u).val).length = u.payload := by
  have := encNlris_map_length ρ.nl (ρ.famOf u.fam).2 true u.items hs
  simp [unreachAttr, Wire.encVal, this, Mp.payload, hh]; omega

theorem exists_mem_of_sz_pos {l : List Nlri} (h : 0 < sz l) : ∃ x, x ∈ l := by
  cases l with
  | nil => simp at h
  | cons x xs => exact ⟨x, by simp⟩

theorem hasCode_app (a b : List Wire.Attr) (c : Nat) :
    Wire.hasCode (a ++ b) c = (Wire.hasCode a c || Wire.hasCode b c) := by
  simp [Wire.hasCode, List.any_append]

theorem code_ne_of_not_mem {as : List Wire.Attr} {c : Nat} (h : c ∉ as.map Wire.Attr.code) {a : Wire.Attr}
    (ha : a ∈ as) : a.code ≠ c :=
  fun e => h (e ▸ List.mem_map_of_mem ha)

theorem reachAttr_code (ρ : Real) (r : Mp) : (reachAttr ρ r).code = 14 := rfl
theorem unreachAttr_code (ρ : Real) (u : Mp) : (unreachAttr ρ u).code = 15 := rfl

theorem mpFlags_ok (n : Nat) {c : Nat} (h : Wire.flagSpec c = some (true, false)) :
    Wire.flagErr (mpFlags n) c = none := by
  simp [Wire.flagErr, h, mpFlags]

theorem hasCode_realise_eq (ρ : Real) (m : Msg) (c : Nat) :
    Wire.hasCode (realise ρ m).attrs c
      = (m.unreach.isSome && 15 == c || (m.attrs && Wire.hasCode ρ.blk c || m.reach.isSome && 14 == c)) := by
  unfold realise
  rw [hasCode_app, hasCode_app]
  congr 1
  · cases m.unreach <;> simp [oattr, Wire.hasCode, unreachAttr_code]
  congr 1
  · cases m.attrs <;> simp [Wire.hasCode]
  · cases m.reach <;> simp [oattr, Wire.hasCode, reachAttr_code]

theorem hasCode_realise (ρ : Real) (m : Msg) (c : Nat) (h14 : c ≠ 14) (h15 : c ≠ 15) :
    Wire.hasCode (realise ρ m).attrs c = (m.attrs && Wire.hasCode ρ.blk c) := by
  have e14 : (14 == c) = false := by simpa using Ne.symm h14
  have e15 : (15 == c) = false := by simpa using Ne.symm h15
  simp [hasCode_realise_eq, e14, e15]

section msg
variable {ρ : Real} {i : Input} (H : Realises ρ i) {m : Msg}
  (s : SecOK (chosenAttr i) (GoodAnn4 i) (GoodWd4 i) (GoodReach i) (GoodUnreach i) m)
include H

theorem hasCode14_realise : Wire.hasCode (realise ρ m).attrs 14 = m.reach.isSome := by
  simp [hasCode_realise_eq, Wire.hasCode_false _ _ H.blk14]

/-- the type codes of the realised UPDATE are a sublist of 15, the block's codes, 14 -/
theorem codes_nodup : ((realise ρ m).attrs.map Wire.Attr.code).Nodup := by
  have full : (15 :: (ρ.blk.map Wire.Attr.code ++ [14])).Nodup := by
    refine List.nodup_cons.2 ⟨?_, List.nodup_append.2 ⟨H.blkNodup, List.pairwise_singleton _ 14, ?_⟩⟩
    · simp [H.blk15]
    · intro c hc _ h14 e
      rw [List.mem_singleton.1 h14] at e
      exact H.blk14 (e ▸ hc)
  simp only [realise, List.map_append]
  refine full.sublist (.append (l₂ := [15]) ?_ (.append ?_ ?_))
  · cases m.unreach with
    | none => exact List.nil_sublist _
    | some u => exact .refl _
  · cases m.attrs with
    | false => exact List.nil_sublist _
    | true => exact .refl _
  · cases m.reach with
    | none => exact List.nil_sublist _
    | some r => exact .refl _

include s

/-- the MP_REACH_NLRI of the message as an RFC attribute: its encoding has the length M-Pack computes, it is
    well formed once that length fits 16 bits, its next hop has a length its family allows; and an MP announce
    was requested -/
theorem reach_real (r : Mp) (hr : m.reach = some r) :
    (Wire.encAttr ρ.p (reachAttr ρ r)).length = r.wire ∧ (r.wire ≤ 65535 → Wire.WFAttr ρ.p (reachAttr ρ r)) ∧
    Wire.mpErr ρ.p (reachAttr ρ r) = false ∧ mpAnns i ≠ [] := by
  obtain ⟨hh, hpos, hit⟩ := s.r r hr
  have key := fun x hx => (H.ma x (hit x hx).1).1.at (hit x hx).2.1
  -- the family and the next hop are those of any item, and there is one
  obtain ⟨x0, hx0⟩ := exists_mem_of_sz_pos hpos
  obtain ⟨hx0a, hf0, hn0, hl0, _⟩ := hit x0 hx0
  have nh := (H.ma x0 hx0a).2
  rw [RealNh, hf0, hn0, hl0] at nh
  obtain ⟨hb, hlt, hok⟩ := nh
  rw [← hb] at hh hlt hok
  have hlen := reachVal_length ρ r hh fun x hx => (key x hx).1
  refine ⟨encAttr_mp_length ρ.p _ _ hlen, fun hfit => ⟨mpFlags_ok _ rfl, ⟨(key x0 hx0).2.2, hlt, fun n hn => ?_⟩, ?_⟩,
    by simp [Wire.mpErr, reachAttr, hok, List.ne_nil_of_mem hx0], List.ne_nil_of_mem hx0a⟩
  · obtain ⟨x, hx, rfl⟩ := List.mem_map.1 hn
    exact (key x hx).2.1
  · rw [hlen]
    exact mpFlags_room _ hfit

theorem unreach_real (u : Mp) (hu : m.unreach = some u) :
    (Wire.encAttr ρ.p (unreachAttr ρ u)).length = u.wire ∧ (u.wire ≤ 65535 → Wire.WFAttr ρ.p (unreachAttr ρ u)) := by
  obtain ⟨_, hh, hpos, hit⟩ := s.u u hu
  have key := fun x hx => (H.mw x (hit x hx).1).at (hit x hx).2.1
  obtain ⟨x0, hx0⟩ := exists_mem_of_sz_pos hpos
  have hlen := unreachVal_length ρ u hh fun x hx => (key x hx).1
  refine ⟨encAttr_mp_length ρ.p _ _ hlen, fun hfit => ⟨mpFlags_ok _ rfl, ⟨(key x0 hx0).2.2, fun n hn => ?_⟩, ?_⟩⟩
  · obtain ⟨x, hx, rfl⟩ := List.mem_map.1 hn
    exact (key x hx).2.1
  · rw [hlen]
    exact mpFlags_room _ hfit

theorem wd4_len : (Wire.encNlris 1 true (m.wd4.map ρ.nl)).length = sz m.wd4 :=
  encNlris_map_length ρ.nl 1 true m.wd4 (fun x hx => (H.vw x (s.w4 x hx).1).1)

theorem ann4_len : (Wire.encNlris 1 false (m.ann4.map ρ.nl)).length = sz m.ann4 :=
  encNlris_map_length ρ.nl 1 false m.ann4 (fun x hx => (H.va x (s.a4 x hx).1).1)

theorem attrs_len :
    (Wire.encAttrs ρ.p (realise ρ m).attrs).length
      = owire m.unreach + (if m.attrs then chosenAttr i else 0) + owire m.reach := by
  unfold realise
  simp only [Wire.encAttrs_append, List.length_append]
  rw [encAttrs_oattr_length _ _ _ fun u hu => (unreach_real H s u hu).1,
    encAttrs_oattr_length _ _ _ fun r hr => (reach_real H s r hr).1, Nat.add_assoc]
  cases m.attrs <;> simp [Wire.encAttrs, H.blkLen]

/-- **the length M-Pack computes is the length of the reference encoding** (+ the 19-byte header) -/
theorem realise_len : m.len = 19 + (Wire.encodeUpdate ρ.p (realise ρ m)).length := by
  rw [encodeUpdate_length, attrs_len H s, congrArg Msg.len s.isMk]
  show _ = 19 + (2 + ((Wire.encNlris 1 true (m.wd4.map ρ.nl)).length + (2 + (_ + (Wire.encNlris 1 false (m.ann4.map ρ.nl)).length))))
  rw [wd4_len H s, ann4_len H s]
  simp only [mkMsg]
  omega

theorem mpErr_realise : (realise ρ m).attrs.any (Wire.mpErr ρ.p) = false := by
  rw [List.any_eq_false]
  intro a ha
  rcases mem_realise_attrs.1 ha with ⟨u, _, rfl⟩ | ⟨_, hab⟩ | ⟨r, hr, rfl⟩
  · simp [Wire.mpErr, unreachAttr]
  · unfold Wire.mpErr
    split
    next hv => exact absurd (congrArg Wire.AttrVal.code hv) (code_ne_of_not_mem H.blk14 hab)
    next => exact Bool.false_ne_true
  · exact ne_true_of_eq_false (reach_real H s r hr).2.2.1

theorem semErr_realise : Wire.semErr ρ.p (realise ρ m) = none := by
  -- the NLRI field is non-empty only in a message that carries the block with ORIGIN, AS_PATH, NEXT_HOP
  have c3 : (!(realise ρ m).nlri.isEmpty && !(m.attrs && Wire.hasCode ρ.blk 1 && (m.attrs && Wire.hasCode ρ.blk 2)
      && (m.attrs && Wire.hasCode ρ.blk 3))) = false := by
    cases hl : m.ann4 with
    | nil => simp [realise, hl]
    | cons x xs =>
      have hx : x ∈ m.ann4 := by simp [hl]
      have hxa := (s.a4 x hx).1
      obtain ⟨h1, h2, h3⟩ := H.mand4 (List.ne_nil_of_mem hxa)
      have hat := s.attrs_of_ann4 hx (by rw [← (H.va x hxa).1]; exact Wire.encNlri_length_pos 1 false (ρ.nl x))
      simp [hat, h1, h2, h3]
  have c4 : (m.reach.isSome && !(m.attrs && Wire.hasCode ρ.blk 1 && (m.attrs && Wire.hasCode ρ.blk 2))) = false := by
    cases hr : m.reach with
    | none => rfl
    | some r =>
      obtain ⟨h1, h2⟩ := H.mandMp (reach_real H s r hr).2.2.2
      simp [s.attrs_of_reach hr, h1, h2]
  unfold Wire.semErr
  rw [Wire.dupCode_false _ (codes_nodup H), mpErr_realise H s, hasCode14_realise H,
    hasCode_realise ρ m 1 (by decide) (by decide), hasCode_realise ρ m 2 (by decide) (by decide),
    hasCode_realise ρ m 3 (by decide) (by decide), c3, c4]
  rfl

/-- **the UPDATE a message stands for is one a peer accepts** (`Wire.WFUpdate`), once the message is
    within the negotiated maximum -/
theorem realise_wf (hlen : m.len ≤ i.M) : Wire.WFUpdate ρ.p (realise ρ m) := by
  have hl := realise_len H s
  obtain ⟨hW, hA, hu', hr'⟩ := parts_le (encodeUpdate_length .. ▸ hl ▸ hlen) (attrs_len H s) H.small
  refine ⟨fun n hn => ?_, fun a ha => ?_, fun n hn => ?_, hW, hA, ?_, semErr_realise H s⟩
  · obtain ⟨x, hx, rfl⟩ := List.mem_map.1 hn
    exact (H.vw x (s.w4 x hx).1).2
  · -- an MP attribute is no longer than the message it is in
    rcases mem_realise_attrs.1 ha with ⟨u, hu, rfl⟩ | ⟨_, hab⟩ | ⟨r, hr, rfl⟩
    · exact (unreach_real H s u hu).2 (by rwa [hu] at hu')
    · exact H.blkWF a hab
    · exact (reach_real H s r hr).2.1 (by rwa [hr] at hr')
  · obtain ⟨x, hx, rfl⟩ := List.mem_map.1 hn
    exact (H.va x (s.a4 x hx).1).2
  · rw [H.msgSize, Nat.add_comm, ← hl]; exact hlen

end msg

theorem mpAnnounces_realise {ρ : Real} {i : Input} (H : Realises ρ i) (m : Msg) (t : Nat × Nat × Bytes × Wire.Nlri) :
    t ∈ Wire.mpAnnounces (realise ρ m).attrs ↔
      ∃ r, m.reach = some r ∧ ∃ x ∈ r.items,
        t = ((ρ.famOf r.fam).1, (ρ.famOf r.fam).2, Wire.nhAddr (ρ.famOf r.fam).2 (ρ.nhb r.nh), ρ.nl x) := by
  rw [Wire.mem_mpAnnounces]
  constructor
  · rintro ⟨a, ha, afi, safi, nh, ns, hv, n, hn, rfl⟩
    rcases mem_realise_attrs.1 ha with ⟨u, _, rfl⟩ | ⟨_, hab⟩ | ⟨r, hr, rfl⟩
    · cases hv
    · exact absurd (congrArg Wire.AttrVal.code hv) (code_ne_of_not_mem H.blk14 hab)
    · cases hv
      obtain ⟨x, hx, rfl⟩ := List.mem_map.1 hn
      exact ⟨r, hr, x, hx, rfl⟩
  · rintro ⟨r, hr, x, hx, rfl⟩
    exact ⟨reachAttr ρ r, mem_realise_attrs.2 (.inr (.inr ⟨r, hr, rfl⟩)), _, _, _, _, rfl, ρ.nl x,
      List.mem_map_of_mem hx, rfl⟩

theorem mpWithdraws_realise {ρ : Real} {i : Input} (H : Realises ρ i) (m : Msg) (t : Nat × Nat × Wire.Nlri) :
    t ∈ Wire.mpWithdraws (realise ρ m).attrs ↔
      ∃ u, m.unreach = some u ∧ ∃ x ∈ u.items,
        t = ((ρ.famOf u.fam).1, (ρ.famOf u.fam).2, Wire.eraseLabels (ρ.nl x)) := by
  rw [Wire.mem_mpWithdraws]
  constructor
  · rintro ⟨a, ha, afi, safi, ns, hv, n, hn, rfl⟩
    rcases mem_realise_attrs.1 ha with ⟨u, hu, rfl⟩ | ⟨_, hab⟩ | ⟨r, _, rfl⟩
    · cases hv
      obtain ⟨x, hx, rfl⟩ := List.mem_map.1 hn
      exact ⟨u, hu, x, hx, rfl⟩
    · exact absurd (congrArg Wire.AttrVal.code hv) (code_ne_of_not_mem H.blk15 hab)
    · cases hv
  · rintro ⟨u, hu, x, hx, rfl⟩
    exact ⟨unreachAttr ρ u, mem_realise_attrs.2 (.inl ⟨u, hu, rfl⟩), _, _, _, rfl, ρ.nl x,
      List.mem_map_of_mem hx, rfl⟩

end Exa.Pack
