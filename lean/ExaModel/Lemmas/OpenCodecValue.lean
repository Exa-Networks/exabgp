import ExaModel.Model.OpenCodec
/-! Round trip of the capability value codecs: `decodeCap c.code c.value = ok c` for every
    capability that has a wire form. -/
namespace Exa.Open

theorem be16_val (a : Nat) (h : a < 65536) : a / 256 % 256 * 256 + a % 256 = a := by
  rw [Nat.mod_eq_of_lt (Nat.div_lt_of_lt_mul h), Nat.div_add_mod']

theorem wfTriple_iff {m : Nat} {e : Triple} : wfTriple m e = true ↔ e.1 < 65536 ∧ e.2.1 < 256 ∧ e.2.2 < m := by
  simp [wfTriple, and_assoc]

theorem dec_flatMap (dec : Bytes → Option (List Triple)) (enc : Triple → Bytes) (m : Nat) (h0 : dec [] = some [])
    (hs : ∀ e rest, wfTriple m e = true → dec (enc e ++ rest) = (dec rest).map (e :: ·))
    (es : List Triple) (h : es.all (wfTriple m) = true) : dec (es.flatMap enc) = some es := by
  induction es with
  | nil => exact h0
  | cons e t ih =>
    rw [List.all_cons, Bool.and_eq_true] at h
    rw [List.flatMap_cons, hs e _ h.1, ih h.2]; rfl

theorem dec4_enc (es : List Triple) (h : es.all (wfTriple 256) = true) :
    dec4 (es.flatMap encAddPathEntry) = some es := by
  refine dec_flatMap dec4 encAddPathEntry 256 rfl (fun ⟨a, s, v⟩ rest he => ?_) es h
  have := be16_val a (wfTriple_iff.1 he).1
  simp only [encAddPathEntry, be16, List.cons_append, List.nil_append, dec4, this]
  cases dec4 rest <;> rfl

theorem dec6_enc (es : List Triple) (h : es.all (wfTriple 65536) = true) :
    dec6 (es.flatMap encNextHopEntry) = some es := by
  refine dec_flatMap dec6 encNextHopEntry 65536 rfl (fun ⟨a, s, v⟩ rest he => ?_) es h
  have h1 := be16_val a (wfTriple_iff.1 he).1
  have h2 := be16_val v (wfTriple_iff.1 he).2.2
  simp only [encNextHopEntry, be16, List.cons_append, List.nil_append, dec6, h1, h2]
  cases dec6 rest <;> rfl

theorem dec5_enc (es : List Triple) (h : es.all (wfTriple 65536) = true) :
    dec5 (es.flatMap encPathsLimitEntry) = some es := by
  refine dec_flatMap dec5 encPathsLimitEntry 65536 rfl (fun ⟨a, s, v⟩ rest he => ?_) es h
  have h1 := be16_val a (wfTriple_iff.1 he).1
  have h2 := be16_val v (wfTriple_iff.1 he).2.2
  simp only [encPathsLimitEntry, be16, List.cons_append, List.nil_append, dec5, h1, h2]
  cases dec5 rest <;> rfl

theorem length_flatMap_const {α : Type} (enc : α → Bytes) (k : Nat) (hk : ∀ e, (enc e).length = k) (es : List α) :
    (es.flatMap enc).length = k * es.length := by
  induction es with
  | nil => rfl
  | cons e t ih => rw [List.flatMap_cons, List.length_append, hk, ih, List.length_cons, Nat.mul_succ, Nat.add_comm]

theorem len_flat4 (es : List Triple) : (es.flatMap encAddPathEntry).length = 4 * es.length :=
  length_flatMap_const _ 4 (fun _ => rfl) es

theorem len_flat6 (es : List Triple) : (es.flatMap encNextHopEntry).length = 6 * es.length :=
  length_flatMap_const _ 6 (fun _ => rfl) es

theorem len_flat5 (es : List Triple) : (es.flatMap encPathsLimitEntry).length = 5 * es.length :=
  length_flatMap_const _ 5 (fun _ => rfl) es

theorem wfBytes_flatMap (enc : Triple → Bytes) (m : Nat) (hw : ∀ e, wfTriple m e = true → WFBytes (enc e))
    (es : List Triple) (h : es.all (wfTriple m) = true) : WFBytes (es.flatMap enc) := by
  induction es with
  | nil => exact wfBytes_nil
  | cons e t ih =>
    rw [List.all_cons, Bool.and_eq_true] at h
    exact wfBytes_append (hw e h.1) (ih h.2)

theorem wf_flat4 (es : List Triple) (h : es.all (wfTriple 256) = true) : WFBytes (es.flatMap encAddPathEntry) :=
  wfBytes_flatMap _ 256 (fun e he => by
    have := wfTriple_iff.1 he
    exact wfBytes_append (wf_be16 _) (wfBytes_cons this.2.1 (wfBytes_cons this.2.2 wfBytes_nil))) es h

theorem wf_flat6 (es : List Triple) (h : es.all (wfTriple 65536) = true) : WFBytes (es.flatMap encNextHopEntry) :=
  wfBytes_flatMap _ 65536 (fun e he => by
    have := wfTriple_iff.1 he
    exact wfBytes_append (wfBytes_append (wf_be16 _) (wfBytes_cons (by decide) (wfBytes_cons this.2.1 wfBytes_nil))) (wf_be16 _)) es h

theorem wf_flat5 (es : List Triple) (h : es.all (wfTriple 65536) = true) : WFBytes (es.flatMap encPathsLimitEntry) :=
  wfBytes_flatMap _ 65536 (fun e he => by
    have := wfTriple_iff.1 he
    exact wfBytes_append (wfBytes_append (wf_be16 _) (wfBytes_cons this.2.1 wfBytes_nil)) (wf_be16 _)) es h

theorem hostname_roundtrip (h d : Bytes) (hh : utf8Valid h = true) (hd : utf8Valid d = true) :
    decodeCap 73 ([h.length] ++ h ++ [d.length] ++ d) = .ok (.hostname h d) := by
  have e : [h.length] ++ h ++ [d.length] ++ d = h.length :: (h ++ d.length :: d) := by simp
  rw [e]
  have t1 : List.take h.length (h ++ d.length :: d) = h := List.take_left' rfl
  have d1 : List.drop (h.length + 1) (h ++ d.length :: d) = d := by
    have : h ++ d.length :: d = (h ++ [d.length]) ++ d := by simp
    rw [this]; exact List.drop_left' (by simp)
  have t2 : List.take d.length d = d := List.take_length
  simp [decodeCap, t1, d1, t2, hh, hd]
  omega

theorem software_roundtrip (v : Bytes) (hv : utf8Valid v = true) :
    decodeCap 75 ([v.length] ++ v) = .ok (.software v) := by
  simp [decodeCap, hv]

theorem decodeCap_unknown (c : Nat) (v : Bytes) (hk : knownCodes.contains c = false) :
    decodeCap c v = .ok (.unknown c v) := by
  simp only [knownCodes, List.contains_cons, List.contains_nil, Bool.or_false, Bool.or_eq_false_iff, beq_eq_false_iff_ne,
    ne_eq] at hk
  simp only [decodeCap, hk, if_false]

theorem decodeCap_value (c : Cap) (h : wfCap c = true) : decodeCap c.code c.value = .ok c := by
  simp only [wfCap, Bool.and_eq_true, decide_eq_true_eq] at h
  obtain ⟨⟨hf, _⟩, hl⟩ := h
  cases c with
  | mp a s =>
    simp only [wfCapFields, Bool.and_eq_true, decide_eq_true_eq] at hf
    have := be16_val a hf.1
    simp [decodeCap, Cap.code, Cap.value, be16, rd16, this]
  | asn4 v =>
    simp only [wfCapFields, decide_eq_true_eq] at hf
    have := rd32_be32 v hf []
    simp only [List.append_nil] at this
    simp [decodeCap, Cap.code, Cap.value, this]
  | addpath es => exact (congrArg (optList · Cap.addpath) (dec4_enc es hf) :)
  | nexthop es => exact (congrArg (optList · Cap.nexthop) (dec6_enc es hf) :)
  | pathsLimit es => exact (congrArg (optList · Cap.pathsLimit) (dec5_enc es hf) :)
  | refresh => rfl
  | refreshCisco => rfl
  | enhanced => rfl
  | extMsg => rfl
  | operational => rfl
  | linkLocal => rfl
  | multisession c v => cases c <;> rfl
  | graceful fl t fams =>
    simp only [wfCapFields, Bool.and_eq_true, decide_eq_true_eq] at hf
    obtain ⟨⟨h1, h2⟩, h3⟩ := hf
    have hx : fl * 4096 + t < 65536 := by omega
    have r := rd16_be16 (fl * 4096 + t) hx (fams.flatMap encAddPathEntry)
    have e1 : (fl * 4096 + t) / 4096 = fl := by omega
    have e2 : (fl * 4096 + t) % 4096 = t := by omega
    have dr : List.drop 2 (be16 (fl * 4096 + t) ++ fams.flatMap encAddPathEntry) = fams.flatMap encAddPathEntry :=
      List.drop_left' (by simp)
    simp [decodeCap, Cap.code, Cap.value, r, e1, e2, dr, dec4_enc fams h3, optList]
  | hostname hn d =>
    simp only [wfCapFields, Bool.and_eq_true, decide_eq_true_eq] at hf
    exact hostname_roundtrip hn d hf.1.1.1 hf.1.1.2
  | software v =>
    simp only [wfCapFields, Bool.and_eq_true, decide_eq_true_eq] at hf
    exact software_roundtrip v hf.1
  | unknown c v =>
    simp only [wfCapFields, Bool.and_eq_true, decide_eq_true_eq, Bool.not_eq_true'] at hf
    exact decodeCap_unknown c v hf.2

end Exa.Open
