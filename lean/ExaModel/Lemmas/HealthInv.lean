import ExaModel.Lemmas.HealthBasic
/-! The run invariant of M-Health and the one-step facts the C20 theorems are assembled from. -/
namespace Exa.Health

/-- What is known about the loop variables after a history `hist`:
    * the states whose branch in `one` raises `ValueError` (EXIT, END) are never the loop state;
    * in RISING, `checks` counts successes of the current streak and has not reached `rise` (> 1);
    * dually in FALLING. -/
structure LInv (c : Cfg) (hist : List Inp) (l : Loop) : Prop where
  handled : l.st ≠ .exit ∧ l.st ≠ .end_
  rising : l.st = .rising → 1 < c.rise ∧ 1 ≤ l.checks ∧ l.checks < c.rise ∧
    l.checks ≤ (trailing (Inp.good c) hist : Int)
  falling : l.st = .falling → 1 < c.fall ∧ 1 ≤ l.checks ∧ l.checks < c.fall ∧
    l.checks ≤ (trailing (Inp.bad c) hist : Int)

theorem linv_init (c : Cfg) : LInv c [] {} := by
  refine ⟨by decide, ?_, ?_⟩ <;> simp

section
variable {c : Cfg} {hist : List Inp} {l : Loop} {i p : Inp} {d : Bool}

theorem LInv.streak (h : LInv c hist l) (d : Bool) (hs : l.st = mid d) :
    1 < c.thr d ∧ 1 ≤ l.checks ∧ l.checks < c.thr d ∧
      l.checks ≤ (trailing (Inp.hit c d) hist : Int) := by
  cases d
  · exact h.falling hs
  · exact h.rising hs

theorem LInv.of_streak (hs : l.st = mid d)
    (h : 1 < c.thr d ∧ 1 ≤ l.checks ∧ l.checks < c.thr d ∧
      l.checks ≤ (trailing (Inp.hit c d) hist : Int)) : LInv c hist l := by
  cases d
  · exact ⟨by rw [hs]; decide, fun hr => (by rw [hs] at hr; cases hr), fun _ => h⟩
  · exact ⟨by rw [hs]; decide, fun _ => h, fun hf => (by rw [hs] at hf; cases hf)⟩

/-- outside a streak the invariant says nothing about `checks` -/
theorem LInv.of_rest (hs : l.st = .init ∨ l.st = .disabled ∨ l.st = top d) : LInv c hist l := by
  have : l.st ≠ .rising ∧ l.st ≠ .falling ∧ l.st ≠ .exit ∧ l.st ≠ .end_ := by
    cases d <;> rcases hs with hs | hs | hs <;> rw [hs] <;> decide
  exact ⟨this.2.2, fun h => absurd h this.1, fun h => absurd h this.2.1⟩

/-- Where an input that counts in direction `d` leads: to INIT (out of DISABLED), into the middle
    of the direction with the count still below the threshold, or to its top — and there only by
    staying, or with a streak as long as the threshold (the shortcut of `trigger`, or the count
    reaching it). -/
theorem one_hit_target (h : i.hit c d = true) (hl : LInv c hist l) :
    (one c l i).st = .init ∨
    (one c l i).st = mid d ∧ (1 < c.thr d ∧ 1 ≤ (one c l i).checks ∧ (one c l i).checks < c.thr d ∧
      (one c l i).checks ≤ (trailing (Inp.hit c d) (hist ++ [i]) : Int)) ∨
    (one c l i).st = top d ∧
      (l.st = top d ∨ max (c.thr d) 1 ≤ (trailing (Inp.hit c d) (hist ++ [i]) : Int)) := by
  rw [trailing_snoc, h, if_pos rfl]
  rcases St.dir_cases d l.st with hs | hs | hs | hs | hs
  · exact .inl (one_leave_disabled hs (Inp.hit_iff.1 h).1)
  · rw [one_hit_mid h hs]
    have := hl.streak d hs
    split
    · exact .inr (.inr ⟨rfl, .inr (by omega)⟩)
    · exact .inr (.inl ⟨rfl, by dsimp only; omega⟩)
  · rw [one_hit_top h hs]
    exact .inr (.inr ⟨hs, .inl hs⟩)
  · obtain ⟨hst, hk⟩ := one_hit_other h hs
    split at hst
    · exact .inr (.inr ⟨hst, .inr (by omega)⟩)
    · exact .inr (.inl ⟨hst, by rw [hk hst]; omega⟩)
  · exact absurd hs (not_or.2 hl.handled)

theorem linv_step (c : Cfg) (hist : List Inp) (l : Loop) (i : Inp) (h : LInv c hist l) :
    LInv c (hist ++ [i]) (one c l i) := by
  cases hD : i.disabled c
  case true => exact .of_rest (d := true) (.inr (.inl (one_disabled hD)))
  rcases one_hit_target (Inp.hit_ok hD) h with hs | ⟨hs, hk⟩ | ⟨hs, _⟩
  · exact .of_rest (d := true) (.inl hs)
  · exact .of_streak hs hk
  · exact .of_rest (.inr (.inr hs))

theorem enter_top (d : Bool) (h : LInv c hist l) (hne : l.st ≠ top d)
    (htop : (one c l i).st = top d) :
    max (c.thr d) 1 ≤ (trailing (Inp.hit c d) (hist ++ [i]) : Int) := by
  cases hD : i.disabled c
  case true => rw [one_disabled hD] at htop; cases d <;> cases htop
  rcases one_hit_target (Inp.hit_ok hD) h with h' | ⟨h', _⟩ | ⟨h', hw⟩ <;> rw [htop] at h'
  · cases d <;> cases h'
  · exact absurd h'.symm (mid_ne_top _ _)
  · rw [top_inj.1 h']
    exact hw.resolve_left (top_inj.1 h' ▸ hne)

theorem enter_disabled (h : LInv c hist l) (hdis : (one c l i).st = .disabled) :
    i.disabled c = true := by
  cases hD : i.disabled c
  case true => rfl
  have h := one_hit_target (Inp.hit_ok hD) h
  generalize i.ok = d at h
  rw [hdis] at h
  cases d <;> rcases h with h | ⟨h, _⟩ | ⟨h, _⟩ <;> cases h

theorem hit_after_opposite (ht : 1 < c.thr d)
    (hs : l.st = .init ∨ l.st = mid (!d) ∨ l.st = top (!d)) (h : i.hit c d = true) :
    (one c l i).st = mid d := by
  rw [(one_hit_other h hs).1, if_neg (by omega)]

theorem contrary_starts (ht : 1 < c.thr d) (hl : LInv c hist l)
    (hp : p.hit c (!d) = true) (h : i.hit c d = true) : (one c (one c l p) i).st = mid d :=
  hit_after_opposite ht ((one_hit_target hp hl).imp_right (.imp And.left And.left)) h

end

/-- The unhandled branch of `one` (Python: `raise ValueError`) is not taken from a reachable state. -/
theorem fsm_handled (c : Cfg) (l : Loop) (i : Inp) (h : l.st ≠ .exit ∧ l.st ≠ .end_) :
    (fsm c l i).2.2 = false := by
  fun_cases fsm c l i
  case case17 hs => exact absurd hs h.1  -- EXIT
  case case18 hs => exact absurd hs h.2  -- END
  all_goals rfl

theorem St.writes_eq (t : St) : t.writes = (t.isAnnounce || t == .exit) := by cases t <;> rfl

theorem St.isAnnounce_iff (t : St) : t.isAnnounce = true ↔ t = .up ∨ t = .down ∨ t = .disabled := by
  cases t <;> decide

@[simp] theorem Run.step_loop (c : Cfg) (r : Run) (i : Inp) : (r.step c i).loop = one c r.loop i := rfl

/-- One iteration hands its new state to `exabgp`, which writes the state's lines and records an
    announce target in `ann` — or, under `--debounce` when the state stays, nothing happens. -/
theorem step_cases (c : Cfg) (r : Run) (i : Inp) :
    stepLines c r.loop i = exabgpLines c (one c r.loop i).st ∧ (r.step c i).ann =
      (if (one c r.loop i).st.isAnnounce then some (one c r.loop i).st else r.ann) ∨
    stepLines c r.loop i = [] ∧ (r.step c i).ann = r.ann ∧ (one c r.loop i).st = r.loop.st := by
  unfold stepLines Run.step
  fun_cases handed c r.loop i
  case case1 => exact .inl ⟨rfl, rfl⟩                                      -- handed to `exabgp`
  case case2 hd => exact .inr ⟨rfl, rfl, (by simpa using hd : _ ∧ _).2⟩  -- debounced

theorem ann_step (c : Cfg) (r : Run) (i : Inp) :
    (r.step c i).ann = r.ann ∨
    (r.step c i).ann = some (one c r.loop i).st ∧ (one c r.loop i).st.isAnnounce = true := by
  rcases step_cases c r i with ⟨_, hs⟩ | ⟨_, hs, _⟩ <;> rw [hs]
  · by_cases ha : (one c r.loop i).st.isAnnounce = true
    · exact .inr ⟨if_pos ha, ha⟩
    · exact .inl (if_neg ha)
  · exact .inl rfl

theorem quiet_step (c : Cfg) (r : Run) (i : Inp) (h : (one c r.loop i).st.writes = false) :
    stepLines c r.loop i = [] ∧ (r.step c i).ann = r.ann := by
  rcases step_cases c r i with ⟨hl, hs⟩ | ⟨hl, hs, _⟩
  · rw [hl, hs, exabgpLines, h]
    rw [St.writes_eq, Bool.or_eq_false_iff] at h
    exact ⟨rfl, if_neg (by simp [h.1])⟩
  · exact ⟨hl, hs⟩

/-- `ann` is what was last announced: whenever the loop state is an announce target it is `ann`. -/
structure Inv (c : Cfg) (hist : List Inp) (r : Run) : Prop where
  loop : LInv c hist r.loop
  ann : r.loop.st.isAnnounce = true → r.ann = some r.loop.st

theorem inv_init (c : Cfg) : Inv c [] {} := ⟨linv_init c, by simp [St.isAnnounce]⟩

theorem inv_step (c : Cfg) (hist : List Inp) (r : Run) (i : Inp) (h : Inv c hist r) :
    Inv c (hist ++ [i]) (r.step c i) := by
  refine ⟨linv_step c hist r.loop i h.loop, fun ha => ?_⟩
  rw [Run.step_loop] at ha ⊢
  rcases step_cases c r i with ⟨_, hs⟩ | ⟨_, hs, hsame⟩ <;> rw [hs]
  · exact if_pos ha
  · rw [hsame] at ha ⊢
    exact h.ann ha

theorem run_induction {P : List Inp → Run → Prop} (c : Cfg) (h0 : P [] {})
    (hstep : ∀ hist r i, P hist r → P (hist ++ [i]) (r.step c i)) (hist : List Inp) :
    P hist (run c hist) := by
  have from_ (inputs : List Inp) : ∀ hist r, P hist r → P (hist ++ inputs) (Run.from c r inputs) := by
    induction inputs with
    | nil => intro hist r h; simpa [Run.from] using h
    | cons i rest ih => intro hist r h; simpa [Run.from] using ih _ _ (hstep hist r i h)
  exact from_ hist [] {} h0

theorem inv_run (c : Cfg) (hist : List Inp) : Inv c hist (run c hist) :=
  run_induction c (inv_init c) (inv_step c) hist

theorem ann_isAnnounce (c : Cfg) (hist : List Inp) (a : St) (h : (run c hist).ann = some a) :
    a.isAnnounce = true := by
  refine run_induction (P := fun _ r => ∀ a, r.ann = some a → a.isAnnounce = true) c
    (fun _ h => nomatch h) (fun _ r i ih a ha => ?_) hist a h
  rcases ann_step c r i with h1 | ⟨h1, h2⟩ <;> rw [h1] at ha
  · exact ih a ha
  · exact Option.some.inj ha ▸ h2

section
variable {c : Cfg} {hist : List Inp} {r : Run} {i : Inp} {t : St}

theorem ann_enter (h : Inv c hist r) (hbefore : r.ann ≠ some t) (hafter : (r.step c i).ann = some t) :
    r.loop.st ≠ t ∧ (one c r.loop i).st = t := by
  rcases ann_step c r i with h1 | ⟨h1, h2⟩
  · exact absurd (h1 ▸ hafter) hbefore
  · obtain rfl : (one c r.loop i).st = t := Option.some.inj (h1.symm.trans hafter)
    exact ⟨fun heq => hbefore (heq ▸ h.ann (heq ▸ h2)), rfl⟩

theorem written_is_announced (h : Inv c hist r) :
    stepLines c r.loop i = [] ∨
    ∃ t, t.isAnnounce = true ∧ (r.step c i).ann = some t ∧ stepLines c r.loop i = exabgpLines c t := by
  rcases step_cases c r i with ⟨hl, hs⟩ | ⟨hl, _⟩
  · cases hw : (one c r.loop i).st.writes
    · exact .inl (quiet_step c r i hw).1
    · rw [St.writes_eq, Bool.or_eq_true, beq_iff_eq] at hw
      have ha := hw.resolve_right (linv_step c hist r.loop i h.loop).handled.1
      exact .inr ⟨_, ha, hs.trans (if_pos ha), hl⟩
  · exact .inl hl

end

theorem top_needs_streak (d : Bool) (c : Cfg) (pre : List Inp) (i : Inp)
    (hbefore : (run c pre).ann ≠ some (top d)) (hafter : (run c (pre ++ [i])).ann = some (top d)) :
    ∃ before window, pre ++ [i] = before ++ window ∧ (window.length : Int) = max (c.thr d) 1 ∧
      ∀ x ∈ window, x.hit c d = true := by
  rw [run_snoc] at hafter
  have hinv := inv_run c pre
  obtain ⟨hne, hst⟩ := ann_enter hinv hbefore hafter
  have hstreak := enter_top d hinv.loop hne hst
  obtain ⟨b, w, hw1, hw2, hw3⟩ :=
    trailing_window (Inp.hit c d) (pre ++ [i]) (max (c.thr d) 1).toNat (by omega)
  exact ⟨b, w, hw1, by omega, hw3⟩

end Exa.Health
