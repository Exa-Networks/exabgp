import ExaModel.Lemmas.WireExaReport
/-!
  M-Wire-Exa: the attribute clause of `Meets` for the block ExaBGP writes.
-/
namespace Exa.WireExa
open Exa Exa.Wire
open Exa.Generated.ExaEncTable

theorem sameVal_refl (a : AttrVal) : SameVal a a := Or.inl rfl

theorem sameVal_eq (w v : AttrVal) (h : SameVal w v)
    (h8 : ∀ y, v ≠ .communities y) (h16 : ∀ y, v ≠ .extCommunities y) (h32 : ∀ y, v ≠ .largeCommunities y) :
    w = v := by
  rcases h with h | ⟨x, y, _, e, _⟩ | ⟨x, y, _, e, _⟩ | ⟨x, y, _, e, _⟩
  · exact h
  · exact absurd e (h8 y)
  · exact absurd e (h16 y)
  · exact absurd e (h32 y)

theorem sameOpt_some_eq (x : Option AttrVal) (v : AttrVal) (h : SameOpt x (some v))
    (h8 : ∀ y, v ≠ .communities y) (h16 : ∀ y, v ≠ .extCommunities y) (h32 : ∀ y, v ≠ .largeCommunities y) :
    x = some v := by
  cases x with
  | none => exact absurd h (by simp [SameOpt])
  | some w => rw [sameVal_eq w v h h8 h16 h32]

theorem sameOpt_none (x : Option AttrVal) (h : SameOpt x none) : x = none := by
  cases x with
  | none => rfl
  | some w => exact absurd h (by simp [SameOpt])

theorem sameOpt_refl (a : Option AttrVal) : SameOpt a a := by
  cases a with
  | none => trivial
  | some v => exact sameVal_refl v

theorem modelPath_eq (p : SessParams) (r : RouteReq) (hs : WFSess p) : modelPath p r = wantPath p r := by
  unfold modelPath wantPath
  rw [defaultPath_eq p hs]
  cases firstOf r.attrs 2 with
  | none => rfl
  | some b => cases b <;> rfl

theorem modelPath_ok (p : SessParams) (r : RouteReq) (hs : WFSess p) (hw : ∀ a ∈ r.attrs, WFReqAttr a) :
    PathOk (modelPath p r) := by
  unfold modelPath
  cases hf : firstOf r.attrs 2 with
  | none => exact defaultPath_ok p hs.1
  | some b =>
    cases b <;> try exact defaultPath_ok p hs.1
    case asPath s => exact hw _ (firstOf_mem r.attrs 2 _ hf)

theorem sameOpt_ite {e e' : Prop} [Decidable e] [Decidable e'] (h : e ↔ e') {v w : AttrVal} (hv : SameVal v w) :
    SameOpt (if e then none else some v) (if e' then none else some w) := by
  by_cases he : e
  · rw [if_pos he, if_pos (h.1 he)]; trivial
  · rw [if_neg he, if_neg (mt h.2 he)]; exact hv

theorem sameOpt_norm (a : ReqAttr) : SameOpt (askVal (normAttr a)) (askVal a) := by
  fun_cases normAttr a
  case case1 cs =>
    exact sameOpt_ite (sortBy_eq_nil id cs) (.inr (.inl ⟨_, _, rfl, rfl, mem_sortBy id cs⟩))
  case case2 cs =>
    exact sameOpt_ite (sortBy_eq_nil key2 cs) (.inr (.inr (.inl ⟨_, _, rfl, rfl, mem_sortBy key2 cs⟩)))
  case case3 cs =>
    exact sameOpt_ite ((sortBy_eq_nil key3 _).trans (dedup_eq_nil cs))
      (.inr (.inr (.inr ⟨_, _, rfl, rfl, fun x => (mem_sortBy key3 _ x).trans (mem_dedup cs x)⟩)))
  case case4 => exact sameOpt_refl _

section
variable (p : SessParams) (r : RouteReq)

theorem want_first {a : ReqAttr} (hf : firstOf r.attrs a.code = some a)
    (h1 : a.code ≠ 1) (h2 : a.code ≠ 2) (h5 : a.code ≠ 5) (h16 : a.code ≠ 16) : want p r a.code = askVal a := by
  cases a with
  | origin v => exact absurd rfl h1
  | asPath s => exact absurd rfl h2
  | localPref v => exact absurd rfl h5
  | extCommunities cs => exact absurd rfl h16
  | _ => simp only [ReqAttr.code] at hf ⊢; simp [want, hf, askVal]

theorem want_none {c : Nat} (hf : firstOf r.attrs c = none) (h1 : c ≠ 1) (h2 : c ≠ 2) :
    want p r c = if c = 5 then (if ibgp p then some (.localPref 100) else none) else none := by
  unfold want
  rw [if_neg h1, if_neg h2]
  by_cases h4 : c = 4
  · subst h4; rw [if_pos rfl, hf]; rfl
  rw [if_neg h4]
  by_cases h5 : c = 5
  · subst h5; rw [if_pos rfl, if_pos rfl]; unfold wantLocalPref; rw [hf]
  rw [if_neg h5, if_neg h5]
  by_cases h6 : c = 6
  · subst h6; rw [if_pos rfl, hf]
  rw [if_neg h6]
  by_cases h7 : c = 7
  · subst h7; rw [if_pos rfl, hf]
  rw [if_neg h7]
  by_cases h8 : c = 8
  · subst h8; rw [if_pos rfl, hf]
  rw [if_neg h8]
  by_cases h9 : c = 9
  · subst h9; rw [if_pos rfl, hf]
  rw [if_neg h9]
  by_cases h10 : c = 10
  · subst h10; rw [if_pos rfl, hf]
  rw [if_neg h10]
  by_cases h16 : c = 16
  · subst h16; rw [if_pos rfl, if_pos (extAll_nil_of_none _ hf)]
  rw [if_neg h16]
  by_cases h32 : c = 32
  · subst h32; rw [if_pos rfl, hf]
  rw [if_neg h32]

end

theorem meet_plain (p : SessParams) (r : RouteReq) (P : Params) (as : List Attr) {a : ReqAttr}
    (hf : firstOf r.attrs a.code = some a)
    (h1 : a.code ≠ 1) (h2 : a.code ≠ 2) (h5 : a.code ≠ 5) (h7 : a.code ≠ 7) (h16 : a.code ≠ 16) :
    SameOpt ((if a.code = 5 && !(sameAs p) then []
        else semGiven p (if a.code = 16 then .extCommunities (sortBy key2 (extAll r.attrs)) else normAttr a)).findSome?
      (repAt (reportVal P as) a.code)) (want p r a.code) := by
  have hrep := rep_semGiven p P as (normAttr a) (by rwa [normAttr_code]) (by rwa [normAttr_code])
  rw [normAttr_code] at hrep
  rw [want_first p r hf h1 h2 h5 h16, if_neg (by simp [h5]), if_neg h16, hrep]
  exact sameOpt_norm a

theorem slotOf_reqCode (a : ReqAttr) : slotOf a.code = a.code ∧ a.code ∈ codeOrder := by
  cases a <;> simp only [ReqAttr.code] <;> decide

/-- The slot of type code `c` against what is asked for under `c`. Of the message `as` the report is taken
    from, only the AS4_PATH and AS4_AGGREGATOR it holds matter. -/
theorem slot_meets (p : SessParams) (r : RouteReq) (nh : Bytes) (as : List Attr) (hs : WFSess p)
    (hw : ∀ a ∈ r.attrs, WFReqAttr a)
    (h4 : findAs4Path as = if p.asn4 then none
      else if hasBig (plainSegs (modelPath p r)) then some (plainSegs (modelPath p r)) else none)
    (hu : useAs4 as = true)
    (hg4 : findAgg4 as = match wantAgg r with
      | some (a, i) => if !p.asn4 && isBig a then some (a, i) else none
      | none => none)
    (c : Nat) (hc : c ≠ 3) :
    SameOpt ((semCode p r nh (slotOf c)).findSome? (repAt (reportVal (paramsOf p) as) c)) (want p r c) := by
  by_cases h1 : c = 1
  · subst h1
    show SameOpt (List.findSome? _ (semCode p r nh 1)) _
    rw [semCode_origin]; exact sameOpt_refl _
  by_cases h2 : c = 2
  · subst h2
    show SameOpt (List.findSome? _ (semCode p r nh 2)) (some (.asPath (wantPath p r)))
    rw [semCode_asPath, rep_semAsPath p as _ (modelPath_ok p r hs hw) h4 hu, modelPath_eq p r hs]; exact sameVal_refl _
  by_cases h17 : c = 17
  · subst h17
    show SameOpt (List.findSome? _ (semCode p r nh 2)) none
    rw [semCode_asPath, rep17_semAsPath]; trivial
  by_cases h5 : c = 5
  · subst h5
    show SameOpt (List.findSome? _ (semCode p r nh 5)) (if ibgp p then some (.localPref (wantLocalPref r)) else none)
    rw [semCode_localPref, sameAs_eq p hs]; cases ibgp p <;> exact sameOpt_refl _
  by_cases h7 : c = 7
  · subst h7
    show SameOpt (List.findSome? _ (semCode p r nh 7)) _
    rw [semCode_aggregator, want7]
    cases hwa : wantAgg r with
    | none => trivial
    | some x =>
      rw [hwa] at hg4
      show SameOpt (List.findSome? _ (semAggregator p x.1 x.2)) (some (.aggregator x.1 x.2))
      rw [rep_semAggregator p as x.1 x.2 hg4]; exact sameVal_refl _
  by_cases h18 : c = 18
  · subst h18
    show SameOpt (List.findSome? _ (semCode p r nh 7)) none
    rw [semCode_aggregator]
    cases wantAgg r with
    | none => trivial
    | some x =>
      show SameOpt (List.findSome? _ (semAggregator p x.1 x.2)) none
      rw [rep18_semAggregator]; trivial
  by_cases h16 : c = 16
  · subst h16
    show SameOpt (List.findSome? (repAt _ (ReqAttr.extCommunities (sortBy key2 (extAll r.attrs))).code)
      (semCode p r nh 16)) (askVal (.extCommunities (extAll r.attrs)))
    rw [semCode_extCommunities, rep_semGiven p _ as (.extCommunities (sortBy key2 (extAll r.attrs))) (of_decide_eq_true rfl)
      (of_decide_eq_true rfl)]
    exact sameOpt_norm (.extCommunities (extAll r.attrs))
  have hso : slotOf c = c := by unfold slotOf; rw [if_neg h17, if_neg h18]
  rw [hso]
  cases hf : firstOf r.attrs c with
  | none =>
    rw [want_none p r hf h1 h2, if_neg h5, semCode_none p r nh hc hf, if_neg h1, if_neg h2, if_neg h5]
    trivial
  | some a =>
    obtain rfl := firstOf_code _ _ _ hf
    rw [semCode_first p r nh hf]
    exact meet_plain p r _ as hf h1 h2 h5 h7 h16

theorem attrs_meet (p : SessParams) (r : RouteReq) (nh : Bytes) (tail : List Attr) (ht : IsTail tail)
    (hs : WFSess p) (hw : ∀ a ∈ r.attrs, WFReqAttr a) (c : Nat) (hc : c ≠ 3) :
    SameOpt ((semAll p r nh ++ tail).findSome? (repAt (reportVal (paramsOf p) (semAll p r nh ++ tail)) c))
      (want p r c) := by
  by_cases hk : slotOf c ∈ codeOrder
  · rw [rep_slot p r nh tail ht _ _ c hk]
    exact slot_meets p r nh _ hs hw (findAs4Path_block p r nh tail ht) (useAs4_block p r nh tail ht) (findAgg4_block p r nh tail ht) c hc
  · -- no slot emits `c`, so no keyword has it, and nothing is asked for
    have hf : firstOf r.attrs c = none := by
      cases hf : firstOf r.attrs c with
      | none => rfl
      | some a =>
        obtain rfl := firstOf_code _ _ _ hf
        exact absurd ((slotOf_reqCode a).1.symm ▸ (slotOf_reqCode a).2) hk
    rw [rep_none p r nh tail ht _ _ c hk, want_none p r hf (fun h => hk (by subst h; decide))
      (fun h => hk (by subst h; decide)), if_neg (fun h => hk (by subst h; decide))]
    trivial

end Exa.WireExa
