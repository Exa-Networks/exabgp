import ExaModel.Model.WireExa
import ExaModel.Lemmas.Wire
/-!
  M-Wire-Exa: the byte-level pieces of ExaBGP's encoder are the RFC reference encodings of M-Wire
  (`packU32s = encAsns true`, `packSegs = encSegs`, `packLabels = encStack`, `hdr code v = encAttr ⟨flags, val⟩`),
  what sorting / de-duplication keeps, and from these: the attribute block ExaBGP writes is the reference
  encoding of a list of semantic attributes (`semCode`, one slot per round of `for code in sorted(alls)`).
-/
namespace Exa.WireExa
open Exa Exa.Wire
open Exa.Generated.ExaEncTable

theorem mem_insertBy {α : Type} (key : α → Nat) (x y : α) (l : List α) :
    y ∈ insertBy key x l ↔ y = x ∨ y ∈ l := by
  fun_induction insertBy key x l
  case case1 => simp
  case case2 => simp
  case case3 ih => simp only [List.mem_cons, ih]; exact or_left_comm

theorem mem_foldl_insertBy {α : Type} (key : α → Nat) (l acc : List α) (y : α) :
    y ∈ l.foldl (fun acc x => insertBy key x acc) acc ↔ y ∈ acc ∨ y ∈ l := by
  induction l generalizing acc with
  | nil => simp
  | cons x t ih => simp only [List.foldl_cons, ih, mem_insertBy, List.mem_cons, or_assoc]; exact or_left_comm

theorem mem_sortBy {α : Type} (key : α → Nat) (l : List α) (y : α) : y ∈ sortBy key l ↔ y ∈ l := by
  simp [sortBy, mem_foldl_insertBy]

theorem mem_dedupKeep {α : Type} [DecidableEq α] (seen l : List α) (y : α) :
    y ∈ dedupKeep seen l ↔ y ∈ seen ∨ y ∈ l := by
  fun_induction dedupKeep seen l
  case case1 => simp
  case case2 seen x t hx ih =>
    simp only [ih, List.mem_cons]
    exact ⟨fun h => h.imp_right Or.inr, fun h => h.elim Or.inl (·.elim (fun e => Or.inl (e ▸ hx)) Or.inr)⟩
  case case3 ih => simp only [ih, List.mem_cons, or_assoc]; exact or_left_comm

theorem mem_dedup {α : Type} [DecidableEq α] (l : List α) (y : α) : y ∈ dedup l ↔ y ∈ l := by
  simp [dedup, mem_dedupKeep]

theorem eq_nil_congr {α : Type} {l l' : List α} (h : ∀ y, y ∈ l ↔ y ∈ l') : l = [] ↔ l' = [] := by
  simp only [List.eq_nil_iff_forall_not_mem, h]

theorem sortBy_eq_nil {α : Type} (key : α → Nat) (l : List α) : sortBy key l = [] ↔ l = [] :=
  eq_nil_congr (mem_sortBy key l)

theorem dedup_eq_nil {α : Type} [DecidableEq α] (l : List α) : dedup l = [] ↔ l = [] :=
  eq_nil_congr (mem_dedup l)

theorem packAsns_eq (w4 : Bool) (l : List Nat) : packAsns w4 l = encAsns w4 l := by
  induction l with
  | nil => rfl
  | cons a t ih => simp [packAsns, encAsns, packAsn, encAsn, ih]

theorem packU32s_eq (l : List Nat) : packU32s l = encAsns true l := by
  induction l with
  | nil => rfl
  | cons a t ih => simp [packU32s, encAsns, encAsn, ih]

theorem packLabels_eq (l : List Nat) : packLabels l = encStack l := by
  induction l with
  | nil => rfl
  | cons a t ih =>
    cases t with
    | nil => rfl
    | cons b t' => simp only [packLabels, encStack, ih]

theorem packSeg_eq (w4 : Bool) (t : Nat) (vs : List Nat) (h1 : 1 ≤ vs.length) (h2 : vs.length ≤ 255) :
    packSeg w4 t (vs.length + 1) vs = t :: vs.length :: encAsns w4 vs := by
  unfold packSeg
  have c1 : ¬ vs.length = 0 := by omega
  have c2 : ¬ vs.length > segmentMax := by simp [segmentMax]; omega
  rw [if_neg c1, if_neg c2, packAsns_eq]

/-- Segment sizes `ASPath._segment` writes as they are (it drops an empty segment and splits one above 255). -/
def SegLens (segs : List Seg) : Prop := ∀ s ∈ segs, 1 ≤ s.2.length ∧ s.2.length ≤ 255

theorem packSegs_eq (w4 : Bool) (segs : List Seg) (h : SegLens segs) : packSegs w4 segs = encSegs w4 segs := by
  induction segs with
  | nil => rfl
  | cons s t ih =>
    have hs := h s (by simp)
    simp only [packSegs, encSegs, packSeg_eq w4 s.1 s.2 hs.1 hs.2,
      ih (fun x hx => h x (List.mem_cons_of_mem _ hx)), List.cons_append]

/-- The flags ExaBGP puts on an attribute of class flags (optional, transitive) and value length `n`. -/
def exaFlags (o t : Bool) (n : Nat) : Flags := { opt := o, trans := t, part := false, ext := decide (n > 255) }

/-- `Attribute._attribute` with the class flag of an (optional `o`, transitive `t`) attribute writes the
    reference TLV; an optional attribute with an empty value is not written at all, hence `hne`. -/
theorem hdrWith_eq (p : Params) (o t : Bool) (val : AttrVal) (hne : o = false ∨ encVal p val ≠ []) :
    hdrWith (b2n o 128 + b2n t 64) val.code (encVal p val) =
      encAttr p ⟨exaFlags o t (encVal p val).length, val⟩ := by
  have he : (o && (encVal p val).isEmpty) = false := by
    rcases hne with h | h
    · rw [h]; rfl
    · rw [List.isEmpty_eq_false_iff.2 h, Bool.and_false]
  have hb : hasBit (b2n o 128 + b2n t 64) flagOptional = o ∧ hasBit (b2n o 128 + b2n t 64) flagExtended = false ∧
      hasBit (b2n o 128 + b2n t 64 + flagExtended) flagExtended = true := by cases o <;> cases t <;> decide
  unfold hdrWith
  rw [hb.1, he]
  by_cases hl : (encVal p val).length > 255 <;>
    simp only [hl, hb, attrLenExtendedMax, Bool.not_false, Bool.and_true, decide_true, decide_false, if_true,
      if_false, Bool.false_eq_true, encAttr, exaFlags, Flags.byte, encLen] <;> simp [b2n, flagExtended]

theorem hdrWith_opt_nil (fl code : Nat) (h : hasBit fl flagOptional = true) : hdrWith fl code [] = [] := by
  simp [hdrWith, h]

theorem len_le_hdrWith (fl code : Nat) (v : Bytes) : hdrWith fl code v = [] ∧ v = [] ∨ v.length < (hdrWith fl code v).length := by
  unfold hdrWith
  by_cases h : (hasBit fl flagOptional && v.isEmpty) = true
  · rw [if_pos h]; exact .inl ⟨rfl, List.isEmpty_iff.1 (Bool.and_eq_true_iff.1 h).2⟩
  · rw [if_neg h]
    right
    dsimp only
    generalize (if v.length > attrLenExtendedMax && !(hasBit fl flagExtended) then fl + flagExtended else fl) = f
    by_cases he : hasBit f flagExtended = true
    · rw [if_pos he]; simp only [List.length_cons, List.length_append, be16_length]; omega
    · rw [if_neg he]; simp only [List.length_cons]; omega

theorem encAttrs_single (p : Params) (a : Attr) : encAttrs p [a] = encAttr p a := by simp [encAttrs]

/-- The attribute with ExaBGP's flags for its class and its length. -/
def mk (p : Params) (o t : Bool) (val : AttrVal) : Attr := ⟨exaFlags o t (encVal p val).length, val⟩

def semAsPath (p : SessParams) (segs : List Seg) : List Attr :=
  if p.asn4 then [mk (paramsOf p) false true (.asPath segs)]
  else mk (paramsOf p) false true (.asPath (transSegs segs)) ::
    (if hasBig (plainSegs segs) then [mk (paramsOf p) true true (.as4Path (plainSegs segs))] else [])

def semAggregator (p : SessParams) (asn ip : Nat) : List Attr :=
  if p.asn4 then [mk (paramsOf p) true true (.aggregator asn ip)]
  else if !(isBig asn) then [mk (paramsOf p) true true (.aggregator asn ip)]
  else [mk (paramsOf p) true true (.aggregator exaAsTrans ip), mk (paramsOf p) true true (.as4Aggregator asn ip)]

def semGiven (p : SessParams) : ReqAttr → List Attr
  | .origin v => [mk (paramsOf p) false true (.origin v)]
  | .asPath segs => semAsPath p segs
  | .med v => [mk (paramsOf p) true false (.med v)]
  | .localPref v => [mk (paramsOf p) false true (.localPref v)]
  | .atomicAggregate => [mk (paramsOf p) false true .atomicAggregate]
  | .aggregator asn ip => semAggregator p asn ip
  | .communities cs => if cs = [] then [] else [mk (paramsOf p) true true (.communities cs)]
  | .originatorId ip => [mk (paramsOf p) true false (.originatorId ip)]
  | .clusterList ids => if ids = [] then [] else [mk (paramsOf p) true false (.clusterList ids)]
  | .extCommunities cs => if cs = [] then [] else [mk (paramsOf p) true true (.extCommunities cs)]
  | .largeCommunities cs => if cs = [] then [] else [mk (paramsOf p) true true (.largeCommunities cs)]

/-- The default AS_PATH: empty towards the same AS, else the (negotiated view of the) local AS. -/
def defaultPath (p : SessParams) : List Seg := if sameAs p then [] else [(2, [negLocalAs p])]

def semCode (p : SessParams) (r : RouteReq) (nh : Bytes) (c : Nat) : List Attr :=
  if c = 3 then (if nh.length = 4 then [mk (paramsOf p) false true (.nextHop (rd32 nh))] else [])
  else match given r.attrs c with
    | none =>
      if c = 1 then [mk (paramsOf p) false true (.origin 0)]
      else if c = 2 then semAsPath p (defaultPath p)
      else if c = 5 then (if sameAs p then [mk (paramsOf p) false true (.localPref 100)] else [])
      else []
    | some a => if c = 5 && !(sameAs p) then [] else semGiven p a

def semAll (p : SessParams) (r : RouteReq) (nh : Bytes) : List Attr := codeOrder.flatMap (semCode p r nh)

theorem append_be32_ne_nil (x : Bytes) (n : Nat) : x ++ be32 n ≠ [] := by simp [be32]

theorem packU32s_eq_nil (l : List Nat) : packU32s l = [] ↔ l = [] := by
  cases l <;> simp [packU32s, be32]

theorem flat2_eq_nil (l : List (Nat × Nat)) : flat2 l = [] ↔ l = [] := by
  cases l <;> simp [flat2]

theorem flat3_eq_nil (l : List (Nat × Nat × Nat)) : flat3 l = [] ↔ l = [] := by
  cases l <;> simp [flat3]

theorem hasBig_ne_nil (segs : List Seg) (h : hasBig segs = true) : segs ≠ [] := by
  intro e; subst e; simp [hasBig] at h

theorem encSegs_ne_nil (w4 : Bool) (segs : List Seg) (h : segs ≠ []) : encSegs w4 segs ≠ [] := by
  cases segs with
  | nil => exact absurd rfl h
  | cons s t => simp [encSegs]

theorem forall_transSegs {P : Nat → Nat → Prop} (segs : List Seg) (h : ∀ s ∈ segs, P s.1 s.2.length) :
    ∀ s ∈ transSegs segs, P s.1 s.2.length := by
  intro s hs
  obtain ⟨s0, h0, rfl⟩ := List.mem_map.1 hs
  show P s0.1 (s0.2.map transAsn).length
  rw [List.length_map]; exact h s0 h0

theorem digit256 (x d : Nat) (h : d < 256) : (x * 256 + d) / 256 = x ∧ (x * 256 + d) % 256 = d :=
  ⟨by rw [Nat.mul_comm, Nat.mul_add_div (by decide), Nat.div_eq_of_lt h, Nat.add_zero],
   by rw [Nat.mul_comm, Nat.mul_add_mod, Nat.mod_eq_of_lt h]⟩

theorem rd32_four (a b c d : Nat) : rd32 [a, b, c, d] = ((a * 256 + b) * 256 + c) * 256 + d := by
  simp only [rd32, List.getD_cons_zero, List.getD_cons_succ, Nat.add_mul, Nat.mul_assoc, Nat.reduceMul]

theorem wfBytes_four {a b c d : Nat} (h : WFBytes [a, b, c, d]) : a < 256 ∧ b < 256 ∧ c < 256 ∧ d < 256 :=
  ⟨h a List.mem_cons_self, h b (.tail _ List.mem_cons_self), h c (.tail _ (.tail _ List.mem_cons_self)),
    h d (.tail _ (.tail _ (.tail _ List.mem_cons_self)))⟩

theorem eq_four {bs : Bytes} (h : bs.length = 4) : ∃ a b c d, bs = [a, b, c, d] :=
  match bs, h with
  | [a, b, c, d], _ => ⟨a, b, c, d, rfl⟩

theorem be32_rd32 (bs : Bytes) (hl : bs.length = 4) (hw : WFBytes bs) : be32 (rd32 bs) = bs := by
  obtain ⟨a, b, c, d, rfl⟩ := eq_four hl
  obtain ⟨ha, hb, hc, hd⟩ := wfBytes_four hw
  have hb := digit256 a b hb
  have hc := digit256 (a * 256 + b) c hc
  have hd := digit256 ((a * 256 + b) * 256 + c) d hd
  -- peel the number off digit by digit (base 256)
  have e3 : ∀ n, n / 16777216 = n / 256 / 256 / 256 := fun n => by
    rw [Nat.div_div_eq_div_mul, Nat.div_div_eq_div_mul]
  have e2 : ∀ n, n / 65536 = n / 256 / 256 := fun n => by rw [Nat.div_div_eq_div_mul]
  simp only [rd32_four, be32, e3, e2, hd.1, hd.2, hc.1, hc.2, hb.1, hb.2, Nat.mod_eq_of_lt ha]

theorem rd32_lt (bs : Bytes) (hl : bs.length = 4) (hw : WFBytes bs) : rd32 bs < 4294967296 := by
  obtain ⟨a, b, c, d, rfl⟩ := eq_four hl
  obtain ⟨ha, hb, hc, hd⟩ := wfBytes_four hw
  rw [rd32_four]; omega

theorem normAttr_code (a : ReqAttr) : (normAttr a).code = a.code := by fun_cases normAttr a <;> rfl

theorem firstOf_code (as : List ReqAttr) (c : Nat) (a : ReqAttr) (h : firstOf as c = some a) : a.code = c := by
  have := List.find?_some h
  simpa using this

theorem firstOf_mem (as : List ReqAttr) (c : Nat) (a : ReqAttr) (h : firstOf as c = some a) : a ∈ as :=
  List.mem_of_find?_eq_some h

theorem given_code (as : List ReqAttr) (c : Nat) (a : ReqAttr) (h : given as c = some a) : a.code = c := by
  revert h
  fun_cases given as c <;> intro h
  case case1 hc _ _ => cases h; exact hc.symm
  case case2 => cases h
  case case3 =>
    obtain ⟨b, hf, rfl⟩ := Option.map_eq_some_iff.1 h
    rw [normAttr_code]; exact firstOf_code as c b hf

theorem mem_extAll (as : List ReqAttr) (x : Nat × Nat) (h : x ∈ extAll as) :
    ∃ cs, ReqAttr.extCommunities cs ∈ as ∧ x ∈ cs := by
  fun_induction extAll as
  case case1 => cases h
  case case2 cs t ih =>
    rcases List.mem_append.1 h with h | h
    · exact ⟨cs, List.mem_cons_self, h⟩
    · obtain ⟨cs', h1, h2⟩ := ih h; exact ⟨cs', List.mem_cons_of_mem _ h1, h2⟩
  case case3 a t _ ih => obtain ⟨cs', h1, h2⟩ := ih h; exact ⟨cs', List.mem_cons_of_mem _ h1, h2⟩

theorem wf_normAttr (a : ReqAttr) (h : WFReqAttr a) : WFReqAttr (normAttr a) := by
  revert h
  fun_cases normAttr a <;> intro h
  case case1 cs => exact fun c hc => h c ((mem_sortBy _ _ _).1 hc)
  case case2 cs => exact fun c hc => h c ((mem_sortBy _ _ _).1 hc)
  case case3 cs => exact fun c hc => h c ((mem_dedup _ _).1 ((mem_sortBy _ _ _).1 hc))
  case case4 => exact h

theorem wf_given (as : List ReqAttr) (hw : ∀ a ∈ as, WFReqAttr a) (c : Nat) (a : ReqAttr)
    (h : given as c = some a) : WFReqAttr a := by
  revert h
  fun_cases given as c <;> intro h
  case case1 =>
    cases h
    intro x hx
    obtain ⟨cs, h1, h2⟩ := mem_extAll as x ((mem_sortBy _ _ _).1 hx)
    exact hw _ h1 x h2
  case case2 => cases h
  case case3 =>
    obtain ⟨b, hf, rfl⟩ := Option.map_eq_some_iff.1 h
    exact wf_normAttr b (hw b (firstOf_mem as c b hf))

theorem hdr_eq (p : Params) (o t : Bool) (val : AttrVal) {c : Nat} {v : Bytes} (hc : val.code = c)
    (hv : encVal p val = v) (hf : flagOf c = b2n o 128 + b2n t 64) (hne : o = false ∨ v ≠ []) :
    hdr c v = encAttrs p [mk p o t val] := by
  subst hc hv; unfold hdr; rw [hf, encAttrs_single]; exact hdrWith_eq p o t val hne

theorem hdr_list_eq (p : Params) (t : Bool) (val : AttrVal) {c : Nat} {v : Bytes} (hc : val.code = c)
    (hv : encVal p val = v) (hf : flagOf c = b2n true 128 + b2n t 64) (e : Prop) [Decidable e] (he : v = [] ↔ e) :
    hdr c v = encAttrs p (if e then [] else [mk p true t val]) := by
  by_cases h : e
  · rw [if_pos h, he.2 h]; unfold hdr; rw [hf]
    exact hdrWith_opt_nil _ _ (by cases t <;> decide)
  · rw [if_neg h]; exact hdr_eq p true t val hc hv hf (.inr (mt he.1 h))

theorem packAsPath_eq (p : SessParams) (segs : List Seg) (h : SegLens segs) :
    packAsPath p segs = encAttrs (paramsOf p) (semAsPath p segs) := by
  have hpl : SegLens (plainSegs segs) := fun s hs => h s (List.mem_filter.mp hs).1
  have e2 : ∀ b s, p.asn4 = b → hdr 2 (encSegs b s) = encAttrs (paramsOf p) [mk (paramsOf p) false true (.asPath s)] :=
    fun b s hb => hdr_eq _ false true (.asPath s) rfl (by rw [← hb]; rfl) rfl (.inl rfl)
  unfold packAsPath semAsPath
  cases h4 : p.asn4
  · rw [if_neg Bool.false_ne_true, if_neg Bool.false_ne_true, packSegs_eq false _ (forall_transSegs (P := fun _ n => 1 ≤ n ∧ n ≤ 255) segs h), e2 _ _ h4]
    split
    · rename_i hb
      rw [packSegs_eq true _ hpl]
      exact (congrArg _ (hdr_eq _ true true (.as4Path (plainSegs segs)) rfl rfl rfl
        (.inr (encSegs_ne_nil true _ (hasBig_ne_nil _ hb))))).trans (encAttrs_append _ [_] [_]).symm
    · rw [List.append_nil]
  · rw [if_pos rfl, if_pos rfl, packSegs_eq true segs h, e2 _ _ h4]

theorem packAggregator_eq (p : SessParams) (asn ip : Nat) :
    packAggregator p asn ip = encAttrs (paramsOf p) (semAggregator p asn ip) := by
  have e7 : ∀ b a, p.asn4 = b → hdr 7 (encAsn b a ++ be32 ip) =
      encAttrs (paramsOf p) [mk (paramsOf p) true true (.aggregator a ip)] :=
    fun b a hb => hdr_eq _ true true (.aggregator a ip) rfl (by rw [← hb]; rfl) rfl (.inr (append_be32_ne_nil _ _))
  unfold packAggregator semAggregator
  cases h4 : p.asn4
  · rw [if_neg Bool.false_ne_true, if_neg Bool.false_ne_true]
    split
    · exact e7 false asn h4
    · exact (congr (congrArg _ (e7 false _ h4))
        (hdr_eq _ true true (.as4Aggregator asn ip) rfl rfl rfl (.inr (append_be32_ne_nil _ _)))).trans
        (encAttrs_append _ [_] [_]).symm
  · rw [if_pos rfl, if_pos rfl]; exact e7 true asn h4

theorem packGiven_eq (p : SessParams) (a : ReqAttr) (h : ∀ segs, a = .asPath segs → SegLens segs) :
    packGiven p a = encAttrs (paramsOf p) (semGiven p a) := by
  cases a with
  | asPath segs => exact packAsPath_eq p segs (h segs rfl)
  | aggregator asn ip => exact packAggregator_eq p asn ip
  | origin v => exact hdr_eq _ false true (.origin v) rfl rfl rfl (.inl rfl)
  | med v => exact hdr_eq _ true false (.med v) rfl rfl rfl (.inr (List.cons_ne_nil _ _))
  | localPref v => exact hdr_eq _ false true (.localPref v) rfl rfl rfl (.inl rfl)
  | atomicAggregate => exact hdr_eq _ false true .atomicAggregate rfl rfl rfl (.inl rfl)
  | originatorId ip => exact hdr_eq _ true false (.originatorId ip) rfl rfl rfl (.inr (List.cons_ne_nil _ _))
  | communities cs =>
    exact hdr_list_eq _ true (.communities cs) rfl (packU32s_eq cs).symm rfl _ (packU32s_eq_nil cs)
  | clusterList ids =>
    exact hdr_list_eq _ false (.clusterList ids) rfl (packU32s_eq ids).symm rfl _ (packU32s_eq_nil ids)
  | extCommunities cs =>
    exact hdr_list_eq _ true (.extCommunities cs) rfl (packU32s_eq _).symm rfl _
      ((packU32s_eq_nil _).trans (flat2_eq_nil cs))
  | largeCommunities cs =>
    exact hdr_list_eq _ true (.largeCommunities cs) rfl (packU32s_eq _).symm rfl _
      ((packU32s_eq_nil _).trans (flat3_eq_nil cs))

theorem defaultPath_lens (p : SessParams) : SegLens (defaultPath p) := by
  unfold defaultPath
  split
  · intro s hs; cases hs
  · intro s hs; simp at hs; subst hs; simp

theorem packCode_eq (p : SessParams) (r : RouteReq) (nh : Bytes) (c : Nat)
    (hw : ∀ a ∈ r.attrs, WFReqAttr a) (hnh : nh.length = 4 → WFBytes nh) :
    packCode p r nh c = encAttrs (paramsOf p) (semCode p r nh c) := by
  unfold packCode semCode
  by_cases h3 : c = 3
  · rw [if_pos h3, if_pos h3]
    by_cases hl : nh.length = 4
    · rw [if_pos hl, if_pos hl]; exact hdr_eq _ false true (.nextHop (rd32 nh)) rfl (be32_rd32 nh hl (hnh hl)) rfl (.inl rfl)
    · rw [if_neg hl, if_neg hl]; rfl
  rw [if_neg h3, if_neg h3]
  cases hg : given r.attrs c with
  | some a =>
    dsimp only
    by_cases h5 : (c = 5 && !(sameAs p)) = true
    · rw [if_pos h5, if_pos h5]; rfl
    · rw [if_neg h5, if_neg h5]
      have hwa := wf_given r.attrs hw c a hg
      exact packGiven_eq p a (fun segs e s hs => by subst e; exact ⟨(hwa s hs).2.1, (hwa s hs).2.2.1⟩)
  | none =>
    dsimp only
    by_cases h1 : c = 1
    · rw [if_pos h1, if_pos h1]; exact hdr_eq _ false true (.origin 0) rfl rfl rfl (.inl rfl)
    rw [if_neg h1, if_neg h1]
    by_cases h2 : c = 2
    · rw [if_pos h2, if_pos h2]; exact packAsPath_eq p _ (defaultPath_lens p)
    rw [if_neg h2, if_neg h2]
    by_cases h5 : c = 5
    · rw [if_pos h5, if_pos h5]
      by_cases hs : sameAs p = true
      · rw [if_pos hs, if_pos hs]; exact hdr_eq _ false true (.localPref 100) rfl rfl rfl (.inl rfl)
      · rw [if_neg hs, if_neg hs]; rfl
    · rw [if_neg h5, if_neg h5]; rfl

theorem encAttrs_flatMap (p : Params) (ks : List Nat) (f : Nat → Bytes) (g : Nat → List Attr)
    (h : ∀ k, f k = encAttrs p (g k)) : ks.flatMap f = encAttrs p (ks.flatMap g) := by
  induction ks with
  | nil => rfl
  | cons k t ih => rw [List.flatMap_cons, List.flatMap_cons, encAttrs_append, h, ih]

theorem attrBytes_eq (p : SessParams) (r : RouteReq) (nh : Bytes)
    (hw : ∀ a ∈ r.attrs, WFReqAttr a) (hnh : nh.length = 4 → WFBytes nh) :
    attrBytes p r nh = encAttrs (paramsOf p) (semAll p r nh) :=
  encAttrs_flatMap _ _ _ _ (fun c => packCode_eq p r nh c hw hnh)

end Exa.WireExa
