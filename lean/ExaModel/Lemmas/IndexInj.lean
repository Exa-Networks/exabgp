import ExaModel.Lemmas.Index
/-! Injectivity of `index()` on the key (family, path-id, mask, prefix, RD), and the hash
    contract, for the three classes. -/
namespace Exa.Index
open Exa

theorem indexU_key (a b : IpNlri) (ha : WF a) (hb : WF b) (hk : a.kind = b.kind)
    (h : indexU a = indexU b) : key a = key b := by
  unfold indexU at h
  simp only [List.append_assoc] at h
  obtain ⟨e1, e2, e3⟩ := fam_split ha.afi ha.safi hb.afi hb.safi h
  rw [hk] at e3
  obtain ⟨e4, e5⟩ := pathTag_split ha.path hb.path e3
  simp only [List.cons_append, List.nil_append, List.cons.injEq] at e5
  obtain ⟨hm, e6⟩ := e5
  cases hka : a.kind with
  | inet =>
    have hkb : b.kind = .inet := by rw [← hk, hka]
    have ia := ha.inet hka
    have ib := hb.inet hkb
    simp only [rdFlag, hka, hkb, ia.2, ib.2, optBytes, List.nil_append] at e6
    simp only [rdBits, ia.2, ib.2] at hm
    exact key_ext e1 e2 e4 (by simpa using hm) e6 (by rw [ia.2, ib.2])
  | label =>
    have hkb : b.kind = .label := by rw [← hk, hka]
    have ra := ha.label hka
    have rb := hb.label hkb
    simp only [rdFlag, hka, hkb, ra, rb, optBytes, List.nil_append] at e6
    simp only [rdBits, ra, rb] at hm
    exact key_ext e1 e2 e4 (by simpa using hm) e6 (by rw [ra, rb])
  | vpn =>
    have hkb : b.kind = .vpn := by rw [← hk, hka]
    simp only [rdFlag, hka, hkb, List.cons_append, List.nil_append, List.cons.injEq] at e6
    obtain ⟨hf, e7⟩ := e6
    have hr : a.rd.isSome = b.rd.isSome := by
      cases h1 : a.rd <;> cases h2 : b.rd <;> simp [h1, h2] at hf ⊢
    have hl := optBytes_length_eq ha.rd hb.rd hr
    have e8 := List.append_inj e7 hl
    have hbits : rdBits a = rdBits b := by simp [rdBits, hr]
    exact key_ext e1 e2 e4 (by omega) e8.2 (optBytes_inj hr e8.1)

theorem index_key (a b : IpNlri) (ha : WF a) (hb : WF b) (hk : a.kind = b.kind)
    (h : index a = index b) : key a = key b := by
  rw [index_eq_uniform a ha, index_eq_uniform b hb] at h
  exact indexU_key a b ha hb hk h

/-- the INET hash key is made of fields the index determines (`index_key`); labels and RD are empty there -/
theorem inet_hashKey_of_index (a b : IpNlri) (ha : WF a) (hb : WF b)
    (ka : a.kind = .inet) (kb : b.kind = .inet) (h : index a = index b) : hashKey a = hashKey b := by
  have hkey := index_key a b ha hb (by rw [ka, kb]) h
  simp only [key, Key.mk.injEq] at hkey
  obtain ⟨_, _, e3, e4, e5, e6⟩ := hkey
  have ia := ha.inet ka
  have ib := hb.inet kb
  simp [hashKey, ka, kb, packed, rdBits, e3, e4, e5, e6, ia.1, ib.1]

end Exa.Index
