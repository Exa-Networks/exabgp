import ExaModel.Props.C03
#print axioms Exa.Props.C03.raised_codes_defined
#print axioms Exa.Props.C03.defined_table_spec
#print axioms Exa.Props.C03.error_sites_are_rfc
#print axioms Exa.Props.C03.decode_error_defined
#print axioms Exa.Props.C03.decode_total
#print axioms Exa.Props.C03.open_decode_total
#print axioms Exa.Props.C03.steps_compute_the_walks
#print axioms Exa.Props.C03.walks_make_progress
#print axioms Exa.Props.C03.fuel_never_binds
#print axioms Exa.Props.C03.attr_walk_steps
#print axioms Exa.Props.C03.nlri_walk_steps
#print axioms Exa.Props.C03.aspath_walk_steps
#print axioms Exa.Props.C03.label_walk_steps
#print axioms Exa.Props.C03.cap_walk_steps
#print axioms Exa.Props.C03.update_work_linear
#print axioms Exa.Props.C03.valid_not_refused
#print axioms Exa.Props.C03.hundreds_of_unknown_attributes
#print axioms Exa.Props.C03.unknown_attributes_any_number
