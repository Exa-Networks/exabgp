import ExaModel.Props.C16
#print axioms Exa.Props.C16.flow_roundtrip
#print axioms Exa.Props.C16.nlri_roundtrip
#print axioms Exa.Props.C16.ordered
#print axioms Exa.Props.C16.eol_last_only
#print axioms Exa.Props.C16.and_bits_preserved
#print axioms Exa.Props.C16.shortest_width
#print axioms Exa.Props.C16.length_switch_240
#print axioms Exa.Props.C16.rd_first
#print axioms Exa.Props.C16.truncated_or_undefined_rejected
#print axioms Exa.Props.C16.undefined_component_rejected
#print axioms Exa.Props.C16.truncated_value_rejected
#print axioms Exa.Props.C16.missing_eol_rejected
#print axioms Exa.Props.C16.short_buffer_rejected
#print axioms Exa.Props.C16.action_communities
#print axioms Exa.Props.C16.action_fields
#print axioms Exa.Props.C16.text_actions_wellformed
#print axioms Exa.Props.C16.table_matches_rfc
#print axioms Exa.Props.C16.spec_table_consistent
#print axioms Exa.Props.C16.code_constants
#print axioms Exa.Props.C16.action_codes_generated
#print axioms Exa.Props.C16.generated_sizes_ok
#print axioms Exa.Props.C16.good_text_wellformed
#print axioms Exa.Props.C16.exa_pack_reference
#print axioms Exa.Props.C16.exa_pack_family
#print axioms Exa.Props.C16.exa_pack_meaning
#print axioms Exa.Props.C16.exa_length_is_rfc
#print axioms Exa.Props.C16.exa_decode_agrees_reference_partial
#print axioms Exa.Props.C16.exa_decode_only_reference_partial
#print axioms Exa.Props.C16.exa_decode_rejects_malformed_partial
#print axioms Exa.Props.C16.exa_decode_agrees_reference_ipv4
#print axioms Exa.Props.C16.stored_operator_meaning
